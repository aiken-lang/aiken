import AikenVerif.Lemmas.FlatTerm
import AikenVerif.Lemmas.CborWrap
/-!
# C08 — script bytes, hashes and addresses survive every tool round trip

Property theorems over M-FLAT (`Model/Flat.lean`), for **all** programs (no size
bound), each binder form, both decoder variants (`Mode.impl` = pallas-codec as
linked, `Mode.fixed` = with the guards of `proposed_fixes/C20-…`).

`Data` constants: the CBOR codec of `PlutusData` is a parameter `cd` with the
law `CodecLaw cd okD` ("`cd.dec (cd.enc d) = some d` for every `d` accepted by
the decidable predicate `okD`").  It is instantiated for the opaque codec
(`opaque_law`); the CBOR encoding of `Data` itself is **not** modelled.
-/
namespace AikenVerif.C08
open AikenVerif AikenVerif.Flat AikenVerif.Gen AikenVerif.Gen.FlatTags

/-- `usize` words (version numbers, constructor tags, de Bruijn indices): any
value below 2⁶⁴, at any bit position, in front of any continuation -/
theorem word_roundtrip (m : Mode) (w : Nat) (hw : w < 2 ^ 64) (n : Nat) (rest : Bits) :
    decWord m ⟨n, wordBits w ++ rest⟩ = .ok (w, ⟨n + (wordBits w).length, rest⟩) :=
  rt_word m w hw n rest

/-- arbitrary-size words (`big_word`, used for integer constants): every natural number -/
theorem bigword_roundtrip (w : Nat) (n : Nat) (rest : Bits) :
    decBigWord ⟨n, wordBits w ++ rest⟩ = .ok (w, ⟨n + (wordBits w).length, rest⟩) :=
  rt_bigWord w n rest

theorem zigzag_roundtrip (i : Int) : unzigzag (zigzag i) = i := unzigzag_zigzag i

/-- integer constants of any size and sign -/
theorem integer_roundtrip (i : Int) (n : Nat) (rest : Bits) :
    decBigInt ⟨n, wordBits (zigzag i) ++ rest⟩ = .ok (i, ⟨n + (wordBits (zigzag i)).length, rest⟩) :=
  rt_bigInt i n rest

/-- byte strings of any length (incl. several 255-byte chunks) at any bit
alignment `n`: filler, chunks, terminating 0 -/
theorem bytes_roundtrip (b : Bytes) (n : Nat) (rest : Bits) :
    decBytes ⟨n, bytesE b n ++ rest⟩ = .ok (b, ⟨n + (bytesE b n).length, rest⟩) :=
  rt_bytes b n rest

/-- strings: every `String` (any Unicode scalar values) -/
theorem string_roundtrip (s : String) (n : Nat) (rest : Bits) :
    decUtf8 ⟨n, bytesE (utf8Enc s) n ++ rest⟩ = .ok (s, ⟨n + (bytesE (utf8Enc s) n).length, rest⟩) :=
  rt_utf8 s n rest

/-- `decode_type ∘ encode_type = id` for every type, whatever follows -/
theorem type_tags_roundtrip (t : Ty) (r : List Nat) :
    decTy ((tyTags t).length + 1) (tyTags t ++ r) = .ok (t, r) :=
  decTy_tyTags t _ r (Nat.lt_succ_self _)

/-- constants: well-typed (`wfC`), without BLS values (`encodableC`) -/
theorem const_roundtrip (cd : DataCodec) (okD : Data → Bool) (law : CodecLaw cd okD) (m : Mode)
    (c : Const) (he : encodableC c = true) (hw : wfC okD c = true) (n : Nat) (rest : Bits) :
    decConst cd m ⟨n, constE cd c n ++ rest⟩ = .ok (c, ⟨n + (constE cd c n).length, rest⟩) :=
  rt_const cd m okD law c he hw n rest

/-- What `to_flat`/`from_flat` can carry (decidable): no BLS constants, constants
well-typed with `Data` payloads the codec reads back, version numbers,
constructor tags, indices/uniques within the machine width, and — for `DeBruijn`
— lambda parameters equal to 0 (they are not written). -/
def WF {β : Type} [FlatBinder β] (okD : Data → Bool) (p : Program β) : Bool :=
  encodableT p.term && wfT okD p.term &&
    decide (p.version.1 < 2 ^ 64) && decide (p.version.2.1 < 2 ^ 64) && decide (p.version.2.2 < 2 ^ 64)

section
variable {β : Type} [FlatBinder β] [LawfulFlatBinder β]
variable (cd : DataCodec) (okD : Data → Bool) (law : CodecLaw cd okD) (m : Mode)

theorem programBits_aligned (p : Program β) : (programBits cd p).length % 8 = 0 := by
  simp only [programBits, programE, Enc.seq_length, fillerE_length]
  omega

include law in
/-- bit level: `decProgram` reads back `programBits p` and leaves what follows -/
theorem program_roundtrip_bits (p : Program β) (hwf : WF okD p = true) (rest : Bits) :
    decProgram cd m ⟨0, programBits cd p ++ rest⟩ = .ok (p, ⟨(programBits cd p).length, rest⟩) := by
  simp only [WF, Bool.and_eq_true, decide_eq_true_eq] at hwf
  obtain ⟨⟨⟨⟨he, hw⟩, h1⟩, h2⟩, h3⟩ := hwf
  have hfuel : need p.term ≤ (programBits cd p ++ rest).length + 1 := by
    have hn := need_le_length cd p.term (0 + (wordBits p.version.1).length
      + (wordBits p.version.2.1).length + (wordBits p.version.2.2).length)
    simp only [programBits, programE, Enc.seq_length, Enc.lit_apply, List.length_append]
    omega
  have hrt : RT (programE cd p)
      ((decWord m).bind fun a => (decWord m).bind fun b => (decWord m).bind fun c =>
        (decTerm cd m ((programBits cd p ++ rest).length + 1)).bind fun t =>
          decFiller.bind fun _ => Dec.pure (⟨(a, b, c), t⟩ : Program β)) p :=
    RT.bind (rt_word m _ h1) (RT.bind (rt_word m _ h2) (RT.bind (rt_word m _ h3)
      (RT.bind (rt_term cd m okD law p.term _ hfuel he hw) (RT.bind_pure rt_filler rfl))))
  simpa [decProgram, programBits] using hrt 0 rest

include law in
/-- **flat_roundtrip**: `from_flat (to_flat p ++ anything) = p` -/
theorem flat_roundtrip (p : Program β) (hwf : WF okD p = true) (bytes extra : Bytes)
    (henc : toFlat cd p = some bytes) : fromFlat cd m (bytes ++ extra) = .ok p := by
  have he : encodableT p.term = true := by
    simp only [WF, Bool.and_eq_true] at hwf; exact hwf.1.1.1.1
  simp only [toFlat, he, if_true, Option.some.injEq] at henc
  subst henc
  have hal := programBits_aligned cd p
  have hbits : bitsOfBytes (bytesOfBits (programBits cd p)) = programBits cd p :=
    bitsOfBytes_bytesOfBits ((programBits cd p).length / 8) _ (by omega)
  simp only [fromFlat, bitsOfBytes_append, hbits, program_roundtrip_bits cd okD law m p hwf]

include law in
/-- **reencode_stable**: bytes the toolchain produced (they are `to_flat q` for
some well-formed `q`) are reproduced bit for bit by decode-then-encode -/
theorem reencode_stable (bytes : Bytes) (p : Program β)
    (hdec : fromFlat cd m bytes = .ok p)
    (hrange : ∃ q : Program β, WF okD q = true ∧ toFlat cd q = some bytes) :
    toFlat cd p = some bytes := by
  obtain ⟨q, hq, henc⟩ := hrange
  have h := flat_roundtrip cd okD law m q hq bytes [] henc
  simp only [List.append_nil] at h
  rw [h] at hdec
  cases hdec
  exact henc

/-- the encoder refuses BLS constants (wherever they occur) -/
theorem encode_bls_is_error (p : Program β) (h : encodableT p.term = false) : toFlat cd p = none := by
  simp [toFlat, h]

end

/-- the three binder forms, instantiated (opaque `Data` codec) -/
theorem flat_roundtrip_debruijn (m : Mode) (p : Program DeBruijn) (h : WF isBytesData p = true)
    (bytes extra : Bytes) (henc : toFlat DataCodec.opaque p = some bytes) :
    fromFlat DataCodec.opaque m (bytes ++ extra) = .ok p :=
  flat_roundtrip _ _ opaque_law m p h bytes extra henc

theorem flat_roundtrip_named_debruijn (m : Mode) (p : Program NamedDeBruijn) (h : WF isBytesData p = true)
    (bytes extra : Bytes) (henc : toFlat DataCodec.opaque p = some bytes) :
    fromFlat DataCodec.opaque m (bytes ++ extra) = .ok p :=
  flat_roundtrip _ _ opaque_law m p h bytes extra henc

theorem flat_roundtrip_name (m : Mode) (p : Program Name) (h : WF isBytesData p = true)
    (bytes extra : Bytes) (henc : toFlat DataCodec.opaque p = some bytes) :
    fromFlat DataCodec.opaque m (bytes ++ extra) = .ok p :=
  flat_roundtrip _ _ opaque_law m p h bytes extra henc

/-- The `DeBruijn` hypothesis "lambda parameters are 0" is necessary: the
parameter is not written, so any other value is read back as 0. -/
theorem debruijn_binder_lost (m : Mode) :
    fromFlat DataCodec.opaque m
      ((toFlat DataCodec.opaque (⟨(1, 0, 0), .lam 7 (.var 1)⟩ : Program DeBruijn)).getD [])
      = .ok ⟨(1, 0, 0), .lam 0 (.var 1)⟩ := by
  have hwf : WF isBytesData (⟨(1, 0, 0), .lam 0 (.var 1)⟩ : Program DeBruijn) = true := by decide
  have henc : toFlat DataCodec.opaque (⟨(1, 0, 0), .lam 7 (.var 1)⟩ : Program DeBruijn)
      = toFlat DataCodec.opaque (⟨(1, 0, 0), .lam 0 (.var 1)⟩ : Program DeBruijn) := by
    simp [toFlat, encodableT, programBits, programE, termE, FlatBinder.binderE]
  rw [henc]
  cases h : toFlat DataCodec.opaque (⟨(1, 0, 0), .lam 0 (.var 1)⟩ : Program DeBruijn) with
  | none => simp [toFlat, encodableT] at h
  | some bytes =>
    have := flat_roundtrip_debruijn m _ hwf bytes [] h
    simpa using this

-- non-vacuity: the hypotheses hold on programs using every constructor
example : WF isBytesData (⟨(1, 1, 0),
    .app (.lam 0 (.case (.constr 18446744073709551615 [.var 1, .delay (.force .error)])
      [.builtin .addInteger, .const (.list (.pair .integer .bytestring)
        [.pair .integer .bytestring (.integer (-5)) (.bytestring [1, 2])])]))
      (.const (.data (.bytes [0xd8, 0x79, 0x80])))⟩ : Program DeBruijn) = true := by decide

example : WF isBytesData (⟨(1, 0, 0), .lam ⟨"x", 1⟩ (.var ⟨"x", 1⟩)⟩ : Program NamedDeBruijn) = true := by decide
example : WF isBytesData (⟨(1, 0, 0), .lam ⟨"x", -3⟩ (.var ⟨"y", 9223372036854775807⟩)⟩ : Program Name) = true := by decide
example : WF isBytesData (⟨(1, 0, 0), .lam 1 (.var 1)⟩ : Program DeBruijn) = false := by decide
-- `encodableC` refuses BLS values, not BLS types: a list of empty `g1` lists is carried
example : ∃ c, encodableC c = true ∧ wfC isBytesData c = true ∧ c = .list (.list .g1) [.list .g1 []] :=
  ⟨_, by decide, by decide, rfl⟩

/-- both term decoders (`Term::decode`, `Term::decode_debug`) have the same arms -/
theorem term_decoders_agree : termDecArms = termDecDebugArms := by decide

/-- each decode arm builds the constructor whose encode arm writes that tag -/
theorem term_tags_agree : ∀ c : TermCtor,
    (termDecDebugArms.find? (fun p => p.1 == termEncTag c)).map (·.2) = some c ∧
    (termDecArms.find? (fun p => p.1 == termEncTag c)).map (·.2) = some c :=
  fun c => ⟨termCtorOfTag_enc c, term_decoders_agree ▸ termCtorOfTag_enc c⟩

/-- no decode arm for a tag no encode arm writes -/
theorem term_tags_onto : ∀ p ∈ termDecDebugArms, termEncTag p.2 = p.1 := by decide

theorem term_tags_fit : ∀ c : TermCtor, termEncTag c < 2 ^ termTagWidth := termEncTag_lt

/-- constants use the same tag numbers as types, and `decode_type` inverts `encode_type` -/
theorem type_tags_agree : (∀ c : TyCtor, constEncTags c = typeEncTags c) ∧
    (∀ (c : TyCtor) (r : List Nat), matchTypeArm typeDecArms (typeEncTags c ++ r) = some (c, r)) :=
  ⟨constEncTags_eq, matchTypeArm_enc⟩

/-- `impl Decode for Constant`: the arm matching a constant's own tag list builds
that constructor — or is an `Err`-only arm exactly for the constructors the
encoder refuses -/
theorem const_tags_agree : ∀ c : TyCtor, ∀ r : List Nat, (c = .list ∨ c = .pair ∨ r = []) →
    matchConstArm constDecArms (constEncTags c ++ r)
      = some (if constEncodable c then some c else none, r) := by
  intro c r h
  -- the arms of `list` and `pair` are open (any rest); the others are exact, and evaluated on the empty rest
  rcases h with rfl | rfl | rfl
  · rfl
  · rfl
  · cases c <;> rfl

theorem value_decodable_agree : ∀ c : TyCtor, valueDecodable c = constEncodable c := by
  intro c; cases c <;> rfl

theorem type_tags_fit : ∀ c : TyCtor, ∀ x ∈ typeEncTags c ++ constEncTags c, x < 2 ^ constTagWidth :=
  fun c => List.forall_mem_append.mpr ⟨typeEncTags_lt c, constEncTags_eq c ▸ typeEncTags_lt c⟩

theorem builtin_tags_agree : ∀ b : Builtin, Builtin.ofTag b.tag = some b ∧ b.tag < 2 ^ builtinTagWidth :=
  builtin_tag_spec

section
open AikenVerif.Cbor

/-- `from_cbor ∘ to_cbor`: the byte-string wrapper gives the flat bytes back,
whatever follows (scripts below 2⁶⁴ bytes) -/
theorem cbor_wrap_roundtrip (b extra : Bytes) (h : b.length < 2 ^ 64) :
    unwrapBytes (wrapBytes b ++ extra) = some b := by
  unfold wrapBytes head
  split
  · rename_i hlt
    have hn : (UInt8.ofNat (2 * 32 + b.length)).toNat = 64 + b.length := by
      rw [UInt8.toNat_ofNat']; omega
    have hi : (64 + b.length) % 32 = b.length := by omega
    rw [List.append_assoc, List.singleton_append,
      unwrapBytes_cons _ _ 0 (by omega) (by rw [hn, hi, if_pos hlt]), hn, hi, if_pos hlt]
    simp
  · rw [List.append_assoc]
    by_cases h8 : b.length < 2 ^ 8
    · rw [if_pos h8]; exact unwrap_wide _ 1 b extra rfl (by decide) rfl h8
    by_cases h16 : b.length < 2 ^ 16
    · rw [if_neg h8, if_pos h16]; exact unwrap_wide _ 2 b extra rfl (by decide) rfl h16
    by_cases h32 : b.length < 2 ^ 32
    · rw [if_neg h8, if_neg h16, if_pos h32]; exact unwrap_wide _ 4 b extra rfl (by decide) rfl h32
    · rw [if_neg h8, if_neg h16, if_neg h32]; exact unwrap_wide _ 8 b extra rfl (by decide) rfl h

example : unwrapBytes (wrapBytes [1, 0, 0, 0x20, 1, 1] ++ [0xff]) = some [1, 0, 0, 0x20, 1, 1] := by decide

end

section Published
open AikenVerif.Cbor

/-- Plutus language version of a script; the ledger hashes `tag ++ code` -/
inductive PlutusVersion where
  | v1 | v2 | v3
  deriving DecidableEq, Repr

def versionTag : PlutusVersion → UInt8
  | .v1 => 1 | .v2 => 2 | .v3 => 3

/-- what a blueprint stores for a validator: `compiledCode` and `hash` -/
structure Published (H : Type) where
  code : Bytes
  hash : H

variable {H : Type} [DecidableEq H] (hash : Bytes → H)   -- blake2b-224: a parameter

/-- `impl Serialize for SerializableProgram` (`compiled_code_and_hash`): code =
CBOR byte string of the flat bytes, hash = H(version tag ++ code) -/
def serialize (cd : DataCodec) (v : PlutusVersion) (p : Program DeBruijn) : Option (Published H) :=
  (toFlat cd p).map fun flat => ⟨wrapBytes flat, hash (versionTag v :: wrapBytes flat)⟩

/-- `impl Deserialize for SerializableProgram`: decode the code, **re-encode it**,
and recover the version by comparing the hash for V3, V2, V1 in this order -/
def deserialize (cd : DataCodec) (m : Mode) (pub : Published H) : Option (PlutusVersion × Program DeBruijn) :=
  match unwrapBytes pub.code with
  | none => none
  | some flat =>
    match (fromFlat cd m flat : Res (Program DeBruijn)) with
    | .ok p =>
      match toFlat cd p with
      | none => none
      | some flat' =>
        if hash (versionTag .v3 :: wrapBytes flat') = pub.hash then some (.v3, p)
        else if hash (versionTag .v2 :: wrapBytes flat') = pub.hash then some (.v2, p)
        else if hash (versionTag .v1 :: wrapBytes flat') = pub.hash then some (.v1, p)
        else none
    | _ => none

/-- **published_hash**: the hash stored next to the code is H(version tag ++ exactly
that code), and the code is the CBOR wrapper of `to_flat p` -/
theorem published_hash (cd : DataCodec) (v : PlutusVersion) (p : Program DeBruijn) (pub : Published H)
    (h : serialize hash cd v p = some pub) :
    pub.hash = hash (versionTag v :: pub.code) ∧ ∃ flat, toFlat cd p = some flat ∧ pub.code = wrapBytes flat := by
  unfold serialize at h
  cases hf : toFlat cd p with
  | none => simp [hf] at h
  | some flat =>
    simp only [hf, Option.map_some, Option.some.injEq] at h
    subst h
    exact ⟨rfl, flat, rfl, rfl⟩

/-- **deserialize_serialize**: loading what was saved gives back the same program
and version — provided H separates the three version tags on that code (the
loader has nothing but the hash to tell the versions apart) -/
theorem deserialize_serialize (cd : DataCodec) (okD : Data → Bool) (law : CodecLaw cd okD) (m : Mode)
    (v : PlutusVersion) (p : Program DeBruijn) (pub : Published H)
    (hwf : WF okD p = true) (h : serialize hash cd v p = some pub)
    (hlen : ∀ flat, toFlat cd p = some flat → flat.length < 2 ^ 64)
    (hsep : ∀ v', v' ≠ v → hash (versionTag v' :: pub.code) ≠ hash (versionTag v :: pub.code)) :
    deserialize hash cd m pub = some (v, p) := by
  obtain ⟨hh, flat, hf, hc⟩ := published_hash hash cd v p pub h
  have hu : unwrapBytes pub.code = some flat := by
    have := cbor_wrap_roundtrip flat [] (hlen flat hf)
    simpa [hc] using this
  have hd : (fromFlat cd m flat : Res (Program DeBruijn)) = .ok p := by
    have := flat_roundtrip cd okD law m p hwf flat [] hf
    simpa using this
  unfold deserialize
  simp only [hu, hd, hf, ← hc, hh]
  cases v
  · have h3 := hsep .v3 (by decide)
    have h2 := hsep .v2 (by decide)
    simp [h3, h2]
  · have h3 := hsep .v3 (by decide)
    simp [h3]
  · simp

-- non-vacuity: the separation hypothesis holds for any injective H (here the identity);
-- the length hypothesis holds for every script a machine can hold (< 2⁶⁴ bytes)
example (code : Bytes) (v v' : PlutusVersion) (h : v' ≠ v) :
    (id (versionTag v' :: code) : Bytes) ≠ id (versionTag v :: code) := by
  cases v <;> cases v' <;> simp_all [versionTag]

end Published

end AikenVerif.C08
