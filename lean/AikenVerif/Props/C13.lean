import AikenVerif.Lemmas.PrecRound
/-!
# C13 — the formatter preserves programs: the operator / parenthesis core

`Model/Prec.lean` holds the impl models: `print` (the parenthesisation rules of
`Formatter::{bin_op, operator_side, un_op, wrap_unary_op, pipeline}`) and `parse` (the
precedence tower of `parser::expr::pure_expression`), both over the tables that
`tools/translate.py` (G4) regenerates from `ast.rs`, `expr.rs`, `format.rs`,
`parser/lexer.rs` and `parser/expr/mod.rs` on every run.

Domain of the theorems: ALL trees `Expr` — binary operators, `!`/`-`, pipelines, atoms.
`Expr` is the parser-normal form of `UntypedExpr` (see Model/Prec.lean): a pipeline whose first
stage is a pipeline, or with a single stage, is not an `Expr`, because the real parser cannot
produce one (`(a |> b) |> c` is flattened by its `foldl`); `one_liner` is layout.
What is NOT modelled: the document layout engine, every other expression form
(`e?`, calls, field access, records, …) — those are covered by validation of the real code
(harness `c13-roundtrip`), see notes/C13.md.
-/
namespace AikenVerif.C13
open AikenVerif.Prec AikenVerif.Gen.Prec

/-- formatting then parsing gives back the same tree — for every tree, of any size and depth -/
theorem prec_roundtrip : ∀ e : Expr, parse (print e) = some e := by
  intro e
  have hg := all_good e.size e (Nat.le_refl _) (print e).length (size_le_print_length e)
  have := hg.2 [] trivial
  simp only [List.append_nil] at this
  unfold parse
  rw [this]

/-- the formatter never prints two different trees as the same text -/
theorem print_injective : ∀ a b : Expr, print a = print b → a = b := by
  intro a b h
  have ha := prec_roundtrip a
  rw [h, prec_roundtrip b] at ha
  exact (Option.some.inj ha).symm

/-- formatting is idempotent on every parseable token text: if `ts` parses to `e`, then the
    formatted text `print e` parses, and formatting it again gives `print e` unchanged -/
theorem print_idempotent : ∀ (ts : List Tok) (e : Expr), parse ts = some e →
    (parse (print e)).map print = some (print e) := by
  intro ts e _
  rw [prec_roundtrip e]
  rfl

/-- the formatted text means the same as the original text -/
theorem format_preserves_tree : ∀ (ts : List Tok) (e : Expr), parse ts = some e →
    parse (print e) = parse ts := by
  intro ts e h
  rw [prec_roundtrip e, h]

/-! ## table lemmas: the generated tables agree with each other -/

/-- `BinOp::precedence` orders the operators exactly as the parser's tower does
    (higher precedence = parsed closer to `unary`) -/
theorem precedence_matches_tower : ∀ a b : BinOp, a.precedence < b.precedence ↔ b.tower < a.tower :=
  precedence_lt_iff

theorem same_precedence_iff_same_level : ∀ a b : BinOp, a.precedence = b.precedence ↔ a.tower = b.tower := by
  intro a b
  have := precedence_lt_iff a b
  have := precedence_lt_iff b a
  omega

/-- the formatter's mirrored rule (`matches!(name, BinOp::Or | BinOp::And)`) is applied exactly to
    the operators of the levels that the parser reduces from the right -/
theorem mirrored_iff_right_level : ∀ b : BinOp, b.mirrored = levelRight b.tower :=
  fun b => (table_mirrored b).symm

/-- every operator is produced by a level of the tower -/
theorem tower_in_range : ∀ b : BinOp, b.tower < towerLevels :=
  fun b => (table_range b).2.2

/-- symbol printed by the formatter → lexer token → parser arm gives back the operator,
    at the tower level the model uses for it -/
theorem symbol_token_roundtrip : ∀ b : BinOp,
    (lexSymbol b.symbolCodes).bind parserArm = some (b.tower, b) := by
  intro b; cases b <;> decide +kernel

/-- unary minus and binary minus are the same lexer token (so `Tok.op .subInt` stands for both),
    and `!` is the token the parser's unary level expects -/
theorem negate_shares_minus_token :
    lexSymbol (UnOp.symbolCodes .negate) = some (UnOp.token .negate)
    ∧ lexSymbol (BinOp.symbolCodes .subInt) = some (UnOp.token .negate)
    ∧ lexSymbol (UnOp.symbolCodes .not) = some (UnOp.token .not)
    ∧ parserArm (UnOp.token .not) = none := by decide

theorem pipe_symbol_token : lexSymbol pipeSymbolCodes = some pipeToken ∧ parserArm pipeToken = none := by
  decide

/-- thresholds of `Formatter::pipeline`: a pipeline standing as a later stage is parenthesised,
    and every binary operator parenthesises a pipeline operand -/
theorem pipeline_thresholds :
    pipePrecedence < pipeRestThreshold ∧ pipePrecedence < pipeFirstThreshold
    ∧ ∀ b : BinOp, pipePrecedence < b.precedence ∧ b.precedence < otherPrecedence - 1 := by
  exact ⟨table_pipe_rest, by decide, fun b => ⟨(table_range b).1, (table_range b).2.1⟩⟩

/-- no arm's symbol is a prefix of the symbol of a later arm -/
def lexShadowFree : List (List Nat × Token) → Bool
  | [] => true
  | a :: rest => rest.all (fun b => !(a.1.isPrefixOf b.1)) && lexShadowFree rest

/-- ordered choice in the lexer behaves as longest match on the operator symbols: no symbol is
    shadowed by an earlier arm that is a prefix of it -/
theorem lexer_no_shadowing : lexShadowFree lexArms = true := by decide +kernel

/-! ## non-vacuity -/

private def a : Expr := .atom 0
private def b : Expr := .atom 1
private def c : Expr := .atom 2

/-- `a - (b - c)` keeps its parentheses, `(a - b) - c` loses them, and both come back -/
example : print (.bin .subInt a (.bin .subInt b c)) =
    [.atom 0, .op .subInt, .lparen, .atom 1, .op .subInt, .atom 2, .rparen]
    ∧ print (.bin .subInt (.bin .subInt a b) c) = [.atom 0, .op .subInt, .atom 1, .op .subInt, .atom 2]
    ∧ parse [.atom 0, .op .subInt, .atom 1, .op .subInt, .atom 2] = some (.bin .subInt (.bin .subInt a b) c) := by
  decide +kernel

/-- `&&` is right-nested by the parser, and the printer mirrors its rule -/
example : parse [.atom 0, .op .and, .atom 1, .op .and, .atom 2] = some (.bin .and a (.bin .and b c))
    ∧ print (.bin .and (.bin .and a b) c) = [.lparen, .atom 0, .op .and, .atom 1, .rparen, .op .and, .atom 2] := by
  decide +kernel

/-- pipelines, unary operators; a text that does not parse -/
example : parse (print (.pipe (.pipe a (.pipe b c)) (.un .negate (.un .not (.bin .eq a b))))) =
      some (.pipe (.pipe a (.pipe b c)) (.un .negate (.un .not (.bin .eq a b))))
    ∧ parse [.atom 0, .op .addInt] = none
    ∧ parse [.lparen, .atom 0, .pipe, .atom 1, .rparen, .pipe, .atom 2] = some (.pipe (.pipe a b) c) := by
  decide +kernel

end AikenVerif.C13
