import AikenVerif.Model.Apply
import AikenVerif.Lemmas.SchemaFuel
/-!
# C18 — Applying a parameter means applying the function

Model: `AikenVerif/Model/Apply.lean` (`Validator::apply`, `Program::apply_data`, serde of
`SerializableProgram`, `apply_params_to_script`).  `apply true` is the code of `/repo`, which holds
the `fix:` commit 59371bb (proposed_fixes/C12-fields-length.diff); `apply false` the code before it.

The behavioural clause of the property ("the applied validator behaves like the original applied
to the parameter") is, at the level of this model, the fact that the new code *is* the application
term `[code (con data d)]` (`apply_code_is_application`); what that term evaluates to is the
subject of the evaluator model (C03).
-/
namespace AikenVerif.C18
open AikenVerif AikenVerif.Blueprint AikenVerif.Apply

theorem apply_eq_ok_iff {fixed : Bool} {tbl : Table} {v v' : Validator} {d : Data} :
    apply fixed tbl v d = .ok v' ↔
      ∃ p rest, v.params = p :: rest ∧ validate fixed tbl p d = .ok ∧
        v' = { v with params := rest, program := applyData v.program d } := by
  constructor
  · intro h
    unfold apply at h
    split at h
    · cases h
    · rename_i p rest hp
      split at h
      · rename_i hv
        cases h
        exact ⟨p, rest, hp, hv, rfl⟩
      · cases h
      · cases h
  · rintro ⟨p, rest, hp, hv, rfl⟩
    simp only [apply, hp, hv]

theorem apply_ok_eq {fixed : Bool} {tbl : Table} {v v' : Validator} {d : Data}
    (h : apply fixed tbl v d = .ok v') :
    ∃ p rest, v.params = p :: rest ∧ validate fixed tbl p d = .ok ∧
      v' = { v with params := rest, program := applyData v.program d } :=
  apply_eq_ok_iff.mp h

theorem foldl_stuck (fixed : Bool) (tbl : Table) (r : Applied) (ds : List Data)
    (hr : ∀ v, r ≠ .ok v) : ds.foldl (applyStep fixed tbl) r = r := by
  induction ds with
  | nil => rfl
  | cons d ds ih =>
    have : applyStep fixed tbl r d = r := by
      cases r with
      | ok v => exact absurd rfl (hr v)
      | _ => rfl
    rw [List.foldl_cons, this, ih]

/-- exactly the first remaining parameter is consumed, nothing else changes -/
theorem apply_consumes_first {fixed : Bool} {tbl : Table} {v v' : Validator} {d : Data}
    (h : apply fixed tbl v d = .ok v') :
    ∃ p, v.params = p :: v'.params ∧ v'.lang = v.lang := by
  obtain ⟨p, rest, hp, -, rfl⟩ := apply_ok_eq h
  exact ⟨p, hp, rfl⟩

/-- the new code is the old code applied to the constant `d` (same program version) -/
theorem apply_code_is_application {fixed : Bool} {tbl : Table} {v v' : Validator} {d : Data}
    (h : apply fixed tbl v d = .ok v') :
    v'.program.term = .app v.program.term (.const (.data d)) ∧
      v'.program.version = v.program.version := by
  obtain ⟨-, -, -, -, rfl⟩ := apply_ok_eq h
  exact ⟨rfl, rfl⟩

/-- the parameter is accepted iff it conforms to the schema of the first remaining parameter -/
theorem apply_accepts_iff_conforms (fixed : Bool) (tbl : Table) (v : Validator) (d : Data) :
    (∃ v', apply fixed tbl v d = .ok v') ↔
      ∃ p rest, v.params = p :: rest ∧ validate fixed tbl p d = .ok := by
  constructor
  · rintro ⟨v', h⟩
    obtain ⟨p, rest, hp, hv, -⟩ := apply_ok_eq h
    exact ⟨p, rest, hp, hv⟩
  · rintro ⟨p, rest, hp, hv⟩
    exact ⟨_, apply_eq_ok_iff.mpr ⟨p, rest, hp, hv, rfl⟩⟩

/-- … and never by panicking (`apply true`: the code of `/repo`), whatever the blueprint and the
argument.  The `match` says "`r` is not `panic`". -/
theorem apply_never_panics (tbl : Table) (v : Validator) (d : Data) :
    ∀ r, apply true tbl v d = r → (match r with | .panic => False | _ => True) := by
  intro r h
  unfold apply at h
  split at h
  · subst h; trivial
  · split at h
    · subst h; trivial
    · rename_i hpanic; exact absurd hpanic (validate_no_panic tbl _ d)
    · subst h; trivial

/-- before 59371bb the process could die instead of rejecting -/
theorem apply_panics_unfixed : ∃ (tbl : Table) (v : Validator) (d : Data),
    apply false tbl v d = .panic :=
  ⟨[(.adt 0 .nil, .data (.anyOf [(0, [.inline .integer, .inline .bytes]), (1, [])]))],
   ⟨[.ref (.adt 0 .nil)], .v3, ⟨(1, 1, 0), .error⟩⟩, .constr 0 [.int 1], rfl⟩

/-- applying one by one (a fold, as a deployment script does) is `applyAll` -/
theorem apply_sequence (fixed : Bool) (tbl : Table) (v : Validator) (ds : List Data) :
    ds.foldl (applyStep fixed tbl) (.ok v) = applyAll fixed tbl v ds := by
  induction ds generalizing v with
  | nil => rfl
  | cons d ds ih =>
    simp only [List.foldl_cons, applyStep, applyAll]
    cases h : apply fixed tbl v d with
    | ok v' => exact ih v'
    | noParameters => exact foldl_stuck _ _ _ _ (by simp)
    | rejected why => exact foldl_stuck _ _ _ _ (by simp)
    | panic => exact foldl_stuck _ _ _ _ (by simp)

/-- if every argument is accepted: the parameters consumed are exactly the first `ds.length`
and the program is the one `apply_params_to_script` builds -/
theorem applyAll_ok {fixed : Bool} {tbl : Table} {v v' : Validator} {ds : List Data}
    (h : applyAll fixed tbl v ds = .ok v') :
    v'.params = v.params.drop ds.length ∧ v'.program = applyScript v.program ds ∧
      v'.lang = v.lang := by
  induction ds generalizing v with
  | nil => cases h; exact ⟨rfl, rfl, rfl⟩
  | cons d ds ih =>
    simp only [applyAll] at h
    split at h
    · rename_i v1 ha
      obtain ⟨p, rest, hp, -, rfl⟩ := apply_ok_eq ha
      obtain ⟨h1, h2, h3⟩ := ih h
      exact ⟨by rw [h1, hp]; rfl, h2, h3⟩
    · rename_i hno
      exact absurd h (hno v')

variable {β η : Type} [DecidableEq η]

/-- what C08 establishes about the byte codec and what is assumed of the hash:
decoding inverts encoding, and the three language tags give three different hashes
for the same bytes (blake2b-224 of `tag ‖ bytes`) -/
structure CodecOk (c : Codec β η) : Prop where
  roundtrip : ∀ p, c.de (c.ser p) = some p
  v3v2 : ∀ b, c.hash .v3 b ≠ c.hash .v2 b
  v3v1 : ∀ b, c.hash .v3 b ≠ c.hash .v1 b
  v2v1 : ∀ b, c.hash .v2 b ≠ c.hash .v1 b

/-- reading back what was written gives the same validator -/
theorem load_save {c : Codec β η} (hc : CodecOk c) (v : Validator) : load c (save c v) = some v := by
  obtain ⟨params, lang, program⟩ := v
  simp only [load, save, hc.roundtrip]
  cases lang with
  | v3 => simp
  | v2 => simp [hc.v3v2]
  | v1 => simp [hc.v3v1, hc.v2v1]

/-- the invariant of a deployment session started from `v₀`: the file is the serialisation of the
validator in memory (so the published hash is the hash of the published code, which decodes to the
code in memory), and the validator in memory is `v₀` with some arguments `ds` applied -/
def Inv (c : Codec β η) (v₀ : Validator) (s : State β η) : Prop :=
  s.file = save c s.v ∧
    ∃ ds : List Data, s.v.params = v₀.params.drop ds.length ∧
      s.v.program = applyScript v₀.program ds ∧ s.v.lang = v₀.lang

omit [DecidableEq η] in
theorem inv_init (c : Codec β η) (v₀ : Validator) : Inv c v₀ (init c v₀) :=
  ⟨rfl, [], rfl, rfl, rfl⟩

theorem applyScript_snoc (p : Program DeBruijn) (ds : List Data) (d : Data) :
    applyScript p (ds ++ [d]) = applyData (applyScript p ds) d := by
  simp [applyScript, List.foldl_append]

theorem inv_step {c : Codec β η} (hc : CodecOk c) (tbl : Table) (v₀ : Validator) (s : State β η) (op : Op)
    (h : Inv c v₀ s) : Inv c v₀ (step c tbl s op) := by
  obtain ⟨hfile, ds, hparams, hprog, hlang⟩ := h
  cases op with
  | apply d =>
    simp only [step]
    split
    · rename_i v' ha
      obtain ⟨p, rest, hp, -, rfl⟩ := apply_ok_eq ha
      refine ⟨rfl, ds ++ [d], ?_, ?_, hlang⟩
      · show rest = _
        rw [List.length_append, ← List.drop_drop, ← hparams, hp]
        rfl
      · show applyData s.v.program d = _
        rw [applyScript_snoc, hprog]
    · exact ⟨hfile, ds, hparams, hprog, hlang⟩
  | reload =>
    simp only [step]
    rw [hfile, load_save hc]
    exact ⟨rfl, ds, hparams, hprog, hlang⟩

/-- the invariant holds after EVERY history of `apply` / `reload` operations -/
theorem inv_reachable {c : Codec β η} (hc : CodecOk c) (tbl : Table) (v₀ : Validator) (ops : List Op) :
    Inv c v₀ (run c tbl (init c v₀) ops) := by
  suffices ∀ s, Inv c v₀ s → Inv c v₀ (run c tbl s ops) from this _ (inv_init c v₀)
  induction ops with
  | nil => intro s h; exact h
  | cons op ops ih =>
    intro s h
    simp only [run, List.foldl_cons]
    exact ih _ (inv_step hc tbl v₀ s op h)

/-- consequence for what is published after any history: the hash in the file is the hash of
the code in the file, and that code decodes to `v₀`'s program applied to the accepted arguments -/
theorem published_consistent {c : Codec β η} (hc : CodecOk c) (tbl : Table) (v₀ : Validator)
    (ops : List Op) :
    let s := run c tbl (init c v₀) ops
    s.file.hash = c.hash v₀.lang s.file.compiledCode ∧
      ∃ ds, c.de s.file.compiledCode = some (applyScript v₀.program ds) ∧
        s.file.params = v₀.params.drop ds.length := by
  intro s
  obtain ⟨hfile, ds, hparams, hprog, hlang⟩ := inv_reachable hc tbl v₀ ops
  refine ⟨?_, ds, ?_, ?_⟩
  · show s.file.hash = _
    rw [hfile]; simp [save, hlang]
  · show c.de s.file.compiledCode = _
    rw [hfile]; simp [save, hc.roundtrip, hprog]
  · show s.file.params = _
    rw [hfile]; simp [save, hparams]

/-- towards the satisfiability of `CodecOk`: the identity codec whose hash is the language tag has
`roundtrip` and `v3v2` (shown here); `v3v1` and `v2v1` hold of it for the same reason -/
example : ∃ c : Codec (Program DeBruijn) (Lang × Nat), True ∧
    (∀ p, c.de (c.ser p) = some p) ∧ (∀ b, c.hash .v3 b ≠ c.hash .v2 b) :=
  ⟨⟨id, some, fun l _ => (l, 0)⟩, trivial, fun _ => rfl, fun _ => by simp⟩

/-- acceptance and rejection both occur -/
example : ∃ v : Validator, ∃ tbl : Table,
    (∃ v', apply true tbl v (.int 7) = .ok v' ∧ v'.params = [.inline (.data .bytes)]) ∧
    (∃ why, apply true tbl v (.bytes []) = .rejected why) := by
  refine ⟨
    ⟨[.inline (.data .integer), .inline (.data .bytes)], .v3, ⟨(1, 1, 0), .error⟩⟩, [], ?_, ?_⟩
  · exact ⟨_, rfl, rfl⟩
  · exact ⟨.mismatch, rfl⟩

end AikenVerif.C18
