import AikenVerif.Lemmas.ShrinkSimplify
import AikenVerif.Lemmas.ShrinkPrng
import AikenVerif.Lemmas.ShrinkFuel
/-!
# C16 — Property tests are reproducible and their counterexamples are real

Theorems about M-SHRINK (`Model/Shrink.lean`), the transliteration of
`Counterexample::{simplify, consider, replace, binary_search_replace}`, `Cache::get`,
the PRNG replay protocol, `run_once`/`run_n_times` and `TestResult::is_success`.
All statements quantify over every `run : List UInt8 → Status α`, every initial counterexample and
every fuel `F`: `simplify_terminates` shows the result exists for `F ≥ fuelBound c₀`,
`simplify_fuel_independent` that it is the same for all such `F`, and the other theorems speak
about any `ok` result, whatever the fuel.
The tie to the Rust code is the correspondence `c16-shrink` (real `simplify` and real `Cache` vs
this model on the same interpreted `run` functions) and the end-to-end check `c16-e2e`.
-/
namespace AikenVerif.C16
open AikenVerif.Shrink

variable {α : Type}

/-- the hypothesis the cache relies on: a choice sequence on which the fuzzer neither ran out of
choices nor rejected one gives the same outcome however it is extended -/
abbrev PrefixStable (run : Choices → Status α) : Prop := Shrink.PrefixStable run

/-- every stored cache answer is `run`'s answer on the stored key -/
abbrev DbSound (run : Choices → Status α) (c : Cache α) : Prop := Shrink.DbSound run c

/-- `simplify` terminates — with `ok`, neither `outOfFuel` nor `panic` (out-of-bounds index /
slice, `len - 1` on an empty vector) — for EVERY `run`, every starting point and every fuel
at least `fuelBound c₀ = shortlexRank c₀ + 2·|c₀| + 300`. -/
theorem simplify_terminates (run : Choices → Status α) (s : CE α) (F : Nat)
    (hF : fuelBound s.choices ≤ F) : ∃ s', simplify run F s = .ok s' :=
  let ⟨s', h, _⟩ := simplify_ok run F s hF
  ⟨s', h⟩

/-- the bound is explicit in the choice sequence: `< 256^(n+1) + 2n + 300` for `n` choices -/
theorem fuelBound_le (c : Choices) : fuelBound c < 256 ^ (c.length + 1) + 2 * c.length + 300 := by
  have h1 := lexVal_lt c
  have h2 := geo_lt c.length
  rw [fuelBound, shortlexRank_eq, Nat.pow_succ]
  omega

/-- the result does not depend on the fuel once there is enough of it: "the" result of `simplify` -/
theorem simplify_fuel_independent (run : Choices → Status α) (s : CE α) (F₁ F₂ : Nat)
    (h₁ : fuelBound s.choices ≤ F₁) (h₂ : fuelBound s.choices ≤ F₂) :
    simplify run F₁ s = simplify run F₂ s := by
  have ⟨s', h, _⟩ := simplify_ok run (fuelBound s.choices) s (Nat.le_refl _)
  rw [(simplify_mono run h₁ s).ok h, (simplify_mono run h₂ s).ok h]

/-- any `ok` result, whatever the fuel, is reached by `Steps` -/
theorem steps_of_ok (run : Choices → Status α) (s s' : CE α) (F : Nat)
    (h : simplify run F s = .ok s') : Steps run s s' :=
  (simplify_ok run (max F (fuelBound s.choices)) s (Nat.le_max_right _ _)).of_eq
    ((simplify_mono run (Nat.le_max_left _ _) s).ok h)

/-- With the cache's own assumption (`PrefixStable`): if the starting pair falsifies the property
(`run c₀ = keep v₀`) and the cache holds only true answers, so does the simplified pair. -/
theorem counterexample_real (run : Choices → Status α) (hps : PrefixStable run) (s s' : CE α)
    (F : Nat) (hdb : DbSound run s.cache)
    (h₀ : run s.choices = .keep s.value) (h : simplify run F s = .ok s') :
    run s'.choices = .keep s'.value :=
  (Steps.real run hps (steps_of_ok run s s' F h) ⟨hdb, h₀⟩).2

/-- The same WITHOUT any hypothesis on `run` (fuzzers that look at the replay cursor, hash the
whole sequence, …), starting from the empty cache as `run_once` does: `simplify` only ever
queries sequences no longer than the current one and accepts every `Keep` answer, so a stale
`Keep` can never be served.  (What prefix-instability can cost is a missed shrink, see
`prefix_stable_needed`.) -/
theorem counterexample_real_unconditional (run : Choices → Status α) (c₀ : Choices) (v₀ : α)
    (s' : CE α) (F : Nat) (h₀ : run c₀ = .keep v₀)
    (h : simplify run F { value := v₀, choices := c₀ } = .ok s') :
    run s'.choices = .keep s'.value := by
  have hst := steps_of_ok run _ s' F h
  have h0 : Real' run ({ value := v₀, choices := c₀ } : CE α) :=
    ⟨fun _ _ hk => by simp at hk, fun _ _ hk => by simp at hk, h₀⟩
  exact (Steps.real' run hst h0).2.2

/-- for EVERY `run`: the simplified choice sequence is `≤` the initial one in shortlex order -/
theorem never_larger (run : Choices → Status α) (s s' : CE α) (F : Nat)
    (h : simplify run F s = .ok s') : shortlexLe s'.choices s.choices = true :=
  Steps.le run (steps_of_ok run s s' F h)

/-- `shortlexLe` is the order meant: shorter, or equally long and lexicographically `≤`; it is a
partial order with a strictly monotone rank (so "no larger" is not vacuous) -/
theorem shortlexLe_iff (a b : Choices) :
    shortlexLe a b = true ↔ a.length < b.length ∨ (a.length = b.length ∧ lexLe a b = true) :=
  Shrink.shortlexLe_iff a b

theorem shortlexLe_strict_rank (a b : Choices) (h : shortlexLe a b = true) (hne : a ≠ b) :
    shortlexRank a < shortlexRank b := shortlexRank_lt h hne

/-- with `PrefixStable`, `Cache::get` answers exactly what `run` answers and keeps the stored
answers true (pruning / the longest-common-prefix rule never change an answer) -/
theorem cache_transparent (run : Choices → Status α) (hps : PrefixStable run) (c : Cache α)
    (choices : Choices) (hdb : DbSound run c) :
    (c.get run choices).1 = run choices ∧ DbSound run (c.get run choices).2 :=
  ⟨get_fst_of_stable run hps c choices hdb, get_sound run c choices hdb⟩

/-- …and for every `run`, stored answers stay true (only *served* answers need `PrefixStable`) -/
theorem cache_sound (run : Choices → Status α) (c : Cache α) (choices : Choices)
    (hdb : DbSound run c) : DbSound run (c.get run choices).2 :=
  get_sound run c choices hdb

/-- a `run` that looks at the replay cursor (outcome depends on how many choices are supplied) -/
def cursorRun : Choices → Status Nat := fun cs => if cs.length ≥ 2 then .keep cs.length else .ignore

/-- `PrefixStable` is necessary for `cache_transparent`: for `cursorRun` the cache, after having
been asked `[5]`, answers `Ignore` for `[5, 6]` although `run [5, 6] = Keep 2` — the failure is
lost (not invented). -/
theorem prefix_stable_needed :
    ¬ PrefixStable cursorRun ∧
    ∃ (c : Cache Nat) (choices : Choices), DbSound cursorRun c ∧
      (c.get cursorRun choices).1 ≠ cursorRun choices := by
  refine ⟨?_, (({} : Cache Nat).get cursorRun [5]).2, [5, 6], ?_, ?_⟩
  · intro h
    have := h [5] [6] (by decide)
    revert this; decide
  · exact get_sound cursorRun {} [5] (fun _ _ hk => by simp at hk)
  · decide

/-- fuzzers that touch the PRNG only by drawing from it (`Gen`) give a prefix-stable `run`:
the closure `run_once` hands to `Cache::new` satisfies the cache's assumption -/
theorem replayed_prng_prefix_stable (S : SeedSys) (g : Gen α) (keep : α → Bool) :
    PrefixStable (runOf S g keep) := by
  intro p s h
  rw [runOf_eq] at h ⊢
  rw [runOf_eq]
  cases hp : g.replay p with
  | none => rw [hp] at h; simp [Status.isInvalid] at h
  | some a => rw [replay_append g p s a hp]

/-- `Prng::from_choices(prng'.choices())` replays a seeded run: the fuzzer yields the same value -/
theorem replay_regenerates (S : SeedSys) (g : Gen α) (seed : S.σ) (p' : Prng S) (a : α)
    (h : g.sample (Prng.fromSeed seed) = some (p', a)) :
    (g.sample (S := S) (Prng.fromChoices p'.choices)).map (·.2) = some a := by
  have ⟨drawn, seed', h1, h2⟩ := sample_seeded g seed [] p' a h
  rw [sample_fromChoices, h1]
  simpa [Prng.choices] using h2

/-- `keep_counterexample` and `is_success`, all cases -/
theorem verdict_table :
    (∀ f, keepCounterexample .failImmediately f = f) ∧
    (∀ f, keepCounterexample .succeedImmediately f = f) ∧
    (∀ f, keepCounterexample .succeedEventually f = !f) ∧
    (∀ c, isSuccess .failImmediately c = !c) ∧
    (∀ c, isSuccess .succeedEventually c = !c) ∧
    (∀ c, isSuccess .succeedImmediately c = c) := by decide

/-- the three expectations mean what the documentation says, for every sequence of per-sample
outcomes: plain = no sample fails; `fail` = every sample fails; `fail once` = some sample fails -/
theorem verdict_inverts (otf : OnTestFailure) (fs : List Bool) :
    isSuccess otf (runNTimes otf fs).1 = verdictSpec otf fs := runNTimes_spec otf fs

/-- iterations reported: at most `n`, and exactly `n` when no counterexample was kept -/
theorem iterations_bound (otf : OnTestFailure) (fs : List Bool) :
    (runNTimes otf fs).2 ≤ fs.length ∧
    ((runNTimes otf fs).1 = false → (runNTimes otf fs).2 = fs.length) :=
  runNTimes_iterations otf fs

/-! ## End to end in the model: what `PropertyTest::run` reports -/

/-- what is claimed of a report of `PropertyTest::run` -/
def SoundReport (g : Gen α) (fails : α → Bool) (otf : OnTestFailure) : RunResult α → Prop
  | .counterexample c v _ first =>
      g.replay c = some v ∧ keepCounterexample otf (fails v) = true ∧
      shortlexLe c first = true ∧ (g.replay first).isSome = true
  | .outOfFuel => False
  | .panic => False
  | _ => True

/-- For every draw-only fuzzer `g`, property `fails`, expectation, seed and `n`: `run` never hangs
or panics in the shrinker, and a reported counterexample `(c, v)` (i) is regenerated by replaying
`c`, (ii) is a kept case (fails, resp. passes under `fail`), (iii) is `≤` the first failing case
in shortlex order, which itself replays. -/
theorem reported_counterexample_sound (S : SeedSys) (g : Gen α) (fails : α → Bool)
    (otf : OnTestFailure) : ∀ (n done : Nat) (seed : S.σ),
    SoundReport g fails otf (propertyRun S g fails otf n done (Prng.fromSeed seed))
  | 0, _, _ => by simp [propertyRun, SoundReport]
  | n + 1, done, seed => by
    unfold propertyRun
    cases hs : g.sample (Prng.fromSeed seed) with
    | none => simp [SoundReport]
    | some pa =>
      obtain ⟨p', a⟩ := pa
      have ⟨drawn, seed', h1, h2⟩ := sample_seeded g seed [] p' a hs
      have hch : p'.choices = drawn := by rw [h1]; simp [Prng.choices]
      simp only
      by_cases hkeep : keepCounterexample otf (fails a) = true
      · rw [if_pos hkeep, hch]
        by_cases hemp : drawn.isEmpty = true
        · rw [if_pos hemp]
          exact ⟨h2, hkeep, shortlexLe_refl _, by simp [h2]⟩
        · rw [if_neg hemp]
          have hrun : runOf S g (fun a => keepCounterexample otf (fails a)) drawn = .keep a :=
            (runOf_keep S g _ drawn a).mpr ⟨h2, hkeep⟩
          obtain ⟨s', hok⟩ := simplify_terminates
            (runOf S g fun a => keepCounterexample otf (fails a)) { value := a, choices := drawn }
            (fuelBound drawn) (Nat.le_refl _)
          rw [hok]
          have := (runOf_keep S g _ _ _).mp
            (counterexample_real_unconditional _ drawn a s' _ hrun hok)
          exact ⟨this.1, this.2, never_larger _ _ s' _ hok, by simp [h2]⟩
      · rw [if_neg hkeep]
        have hcl : p'.cleared = Prng.fromSeed seed' := by rw [h1]; rfl
        rw [hcl]
        exact reported_counterexample_sound S g fails otf n (done + 1) seed'

/-- reproducibility: the report is a function of (fuzzer, property, expectation, n, seed).  The theorem
itself is `congrArg`; what carries content is that `propertyRun` takes no other argument — the
model has no other input (no clock, no hash-map order, no global state); the same holds of the
real code only if it has no hidden input, which `c16-e2e` checks by running every case twice. -/
theorem run_deterministic (S : SeedSys) (g : Gen α) (fails : α → Bool) (otf : OnTestFailure)
    (n : Nat) (seed₁ seed₂ : S.σ) (h : seed₁ = seed₂) :
    propertyRun S g fails otf n 0 (Prng.fromSeed seed₁) =
      propertyRun S g fails otf n 0 (Prng.fromSeed seed₂) := by rw [h]

/-! ## Non-vacuity: the hypotheses are satisfiable on non-trivial instances -/

/-- two draws, the property fails when their sum is at least 300 -/
def sumRun : Choices → Status Nat
  | a :: b :: _ => if a.toNat + b.toNat ≥ 300 then .keep (a.toNat + b.toNat) else .ignore
  | _ => .invalid

/-- `sumRun` is prefix-stable and `[255, 200]` is a failing start: the premises of
`counterexample_real`, `never_larger`, `cache_transparent` hold together -/
example : PrefixStable sumRun ∧ sumRun [255, 200] = .keep 455 ∧
    DbSound sumRun ({ value := 455, choices := [255, 200] } : CE Nat).cache := by
  refine ⟨?_, by decide, fun _ _ hk => by simp at hk⟩
  intro p s h
  match p, h with
  | [], h => simp [sumRun, Status.isInvalid] at h
  | [_], h => simp [sumRun, Status.isInvalid] at h
  | a :: b :: rest, _ => simp [sumRun]

/-- the model really shrinks it, to the shortlex-least failing pair `[45, 255]`, in 42 runs -/
example : (match simplify sumRun 2000 { value := 455, choices := [255, 200] } with
    | .ok s => (s.choices, s.value, s.cache.calls) | _ => ([], 0, 0)) = ([45, 255], 300, 42) := by
  decide +kernel

/-- a draw-only fuzzer with a data-dependent number of draws (first draw = how many follow, mod 3)
exists, so `reported_counterexample_sound` / `replayed_prng_prefix_stable` are about real things -/
example : ∃ g : Gen (List UInt8), g.replay [2, 7, 9, 1] = some [7, 9] ∧ g.replay [2, 7] = none :=
  ⟨.read fun n => match n.toNat % 3 with
      | 0 => .done (some [])
      | 1 => .read fun a => .done (some [a])
      | _ => .read fun a => .read fun b => .done (some [a, b]),
   by decide, by decide⟩

/-- all three expectations disagree on some outcome list, so `verdict_inverts` distinguishes them -/
example : verdictSpec .failImmediately [false, true] = false ∧
    verdictSpec .succeedImmediately [false, true] = true ∧
    verdictSpec .succeedEventually [false, true] = false ∧
    verdictSpec .succeedEventually [true, true] = true := by decide

end AikenVerif.C16
