import AikenVerif.Lemmas.Interner
/-!
# C11 — Variable binding survives name/index conversions

Model: `Model/DeBruijn.lean` (impl model of `Converter`, literal; spec by binder
environment).  All theorems quantify over every term (induction in
`Lemmas/DeBruijn.lean`), none has a hypothesis other than the ones written here.

The index→name theorems are about the repaired converter (`dbToName`, `namedDbToName`: `toName true`,
what `/repo` holds since the `fix:` commit of `proposed_fixes/C11-debruijn-to-name-scope.diff`);
`orig_accepts_open_term` / `orig_rebinds` exhibit the two defects of the converter before that commit
(`dbToNameOrig`: `toName false`), for which the full theorems cannot hold.
-/
namespace AikenVerif.C11
open AikenVerif AikenVerif.Db

/-- output binder of `name_to_named_debruijn` / `name_to_debruijn` -/
abbrev mkNamed : String → Nat → NamedDeBruijn := fun s i => ⟨s, i⟩
abbrev mkDb : String → Nat → DeBruijn := fun _ i => i

/-- `name_to_debruijn` computes exactly the environment-passing resolution, error payload included -/
theorem nameToDb_eq_spec (t : Term Name) : nameToDb t = specNameTo mkDb [] t :=
  nameTo_new mkDb t

/-- `name_to_named_debruijn` likewise -/
theorem nameToNamedDb_eq_spec (t : Term Name) : nameToNamedDb t = specNameTo mkNamed [] t :=
  nameTo_new mkNamed t

/-- a term is rejected iff it has a free variable, and then the error is `FreeUnique` of the
first free occurrence (never a panic, never another binder) -/
theorem nameToDb_err_iff_free (t : Term Name) (e : Err) :
    nameToDb t = .error e ↔ ∃ n rest, freeOccs [] t = n :: rest ∧ e = .freeUnique n :=
  nameTo_new_err_iff mkDb t e

theorem nameToDb_ok_iff_closed (t : Term Name) : (∃ d, nameToDb t = .ok d) ↔ freeOccs [] t = [] :=
  nameTo_new_ok_iff mkDb t

theorem nameToNamedDb_err_iff_free (t : Term Name) (e : Err) :
    nameToNamedDb t = .error e ↔ ∃ n rest, freeOccs [] t = n :: rest ∧ e = .freeUnique n :=
  nameTo_new_err_iff mkNamed t e

theorem nameToNamedDb_ok_iff_closed (t : Term Name) : (∃ d, nameToNamedDb t = .ok d) ↔ freeOccs [] t = [] :=
  nameTo_new_ok_iff mkNamed t

/-- `named_db_to_db`: the plain de Bruijn form is the named form with the texts dropped
(so anything that reads indices only — the CEK machine, flat — sees the same program) -/
theorem named_db_to_db (t : Term Name) : nameToDb t = (nameToNamedDb t).map namedDbToDb := by
  rw [nameToDb_eq_spec, nameToNamedDb_eq_spec]
  exact (specNameTo_natural mkNamed (·.index)).1 t []

/-- `debruijn_to_named_debruijn` followed by `named_debruijn_to_debruijn` is the identity -/
theorem dbToNamedDb_project (t : Term DeBruijn) : namedDbToDb (dbToNamedDb t) = t :=
  ((mapBinders_comp _ _).1 t).trans (mapBinders_id.1 t)

/-- `debruijn_to_name`: binder number `k` (pre-order) is named `k`, variable `i ≥ 1` gets the
name of its `i`-th enclosing binder -/
theorem dbToName_eq_spec (t : Term DeBruijn) :
    dbToName t = (specToName id dbText [] 0 t).map (·.1) :=
  toName_new id dbText t

theorem namedDbToName_eq_spec (t : Term NamedDeBruijn) :
    namedDbToName t = (specToName NamedDeBruijn.index namedText [] 0 t).map (·.1) :=
  toName_new NamedDeBruijn.index namedText t

/-- an index term is rejected iff it is open (some variable is 0 or points beyond its binders) -/
theorem dbToName_err_iff_open (t : Term DeBruijn) :
    (∃ e, dbToName t = .error e) ↔ closedI id 0 t = false :=
  toName_new_err_iff id dbText t

/-- … and the error is always `FreeIndex` (no panic) -/
theorem dbToName_err_class (t : Term DeBruijn) (e : Err) (h : dbToName t = .error e) : ∃ i, e = .freeIndex i :=
  toName_new_err_is_freeIndex id dbText t e h

theorem namedDbToName_err_iff_open (t : Term NamedDeBruijn) :
    (∃ e, namedDbToName t = .error e) ↔ closedI NamedDeBruijn.index 0 t = false :=
  toName_new_err_iff NamedDeBruijn.index namedText t

theorem namedDbToName_err_class (t : Term NamedDeBruijn) (e : Err) (h : namedDbToName t = .error e) :
    ∃ i, e = .freeIndex i :=
  toName_new_err_is_freeIndex NamedDeBruijn.index namedText t e h

/-- index → name → index: every closed index term comes back, with the (information-free)
binder indices set to 0 -/
theorem roundtrip (t : Term DeBruijn) (hc : closedI id 0 t = true) :
    ∃ t', dbToName t = .ok t' ∧ nameToDb t' = .ok (zeroBinders t) :=
  roundtrip_new id dbText mkDb (fun _ i => i) (fun _ _ _ => rfl) t hc

/-- on what decoders and `name_to_debruijn` produce (binder index 0)
the round trip is the identity -/
theorem roundtrip_alpha (t : Term DeBruijn) (hc : closedI id 0 t = true) (hz : bindersZero id t = true) :
    ∃ t', dbToName t = .ok t' ∧ nameToDb t' = .ok t := by
  obtain ⟨t', h1, h2⟩ := roundtrip t hc
  refine ⟨t', h1, ?_⟩
  rw [h2, zeroBinders, zeroBinders_id.1 t hz]

/-- named-de-Bruijn → name → named-de-Bruijn: indices *and texts* come back -/
theorem roundtrip_named (t : Term NamedDeBruijn) (hc : closedI NamedDeBruijn.index 0 t = true) :
    ∃ t', namedDbToName t = .ok t' ∧ nameToNamedDb t' = .ok (zeroBindersNamed t) :=
  roundtrip_new NamedDeBruijn.index namedText mkNamed (fun n i => ⟨n.text, i⟩) (fun _ _ _ => rfl) t hc

/-- name → index → name: accepted, and alpha-equivalent to the original -/
theorem alpha_preserved (t : Term Name) (d : Term DeBruijn) (h : nameToDb t = .ok d) :
    ∃ t', dbToName d = .ok t' ∧ AlphaEq [] [] t t' :=
  alpha_new id dbText mkDb (fun _ _ => rfl) t d h

theorem alpha_preserved_named (t : Term Name) (d : Term NamedDeBruijn) (h : nameToNamedDb t = .ok d) :
    ∃ t', namedDbToName d = .ok t' ∧ AlphaEq [] [] t t' :=
  alpha_new NamedDeBruijn.index namedText mkNamed (fun _ _ => rfl) t d h

/-- `AlphaEq` is at least as fine as "same de Bruijn form": alpha-equivalent closed terms convert to
the same index term (so `alpha_preserved` says that no variable changed its binder) -/
theorem alpha_same_index_form (t t' : Term Name) (h : AlphaEq [] [] t t') (d : Term DeBruijn)
    (hd : nameToDb t = .ok d) : nameToDb t' = .ok d := by
  rw [nameToDb_eq_spec] at hd ⊢
  exact alpha_sound.1 t [] [] t' h d hd

/-- evaluation reads indices only: the index skeleton handed to the machine is the same
before and after a round trip through names -/
theorem index_skeleton_invariant (t : Term Name) (d : Term NamedDeBruijn) (h : nameToNamedDb t = .ok d) :
    ∃ t' d', namedDbToName d = .ok t' ∧ nameToNamedDb t' = .ok d' ∧ namedDbToDb d' = namedDbToDb d := by
  obtain ⟨t', h1, h2⟩ := alpha_preserved_named t d h
  have hd : nameToDb t = .ok (namedDbToDb d) := by rw [named_db_to_db, h]; rfl
  have hd' := alpha_same_index_form t t' h2 _ hd
  rw [named_db_to_db] at hd'
  cases hn : nameToNamedDb t' with
  | error e => rw [hn] at hd'; cases hd'
  | ok d' =>
    rw [hn] at hd'
    refine ⟨t', d', h1, hn, ?_⟩
    simpa [Except.map] using hd'

/-- DeBruijn `lam.[(lam.1) 0]` -/
def witness : Term DeBruijn := .lam 0 (.app (.lam 0 (.var 1)) (.var 0))

/-- `debruijn_to_name` before the repair accepts an open term: index 0 after a closed sibling lambda is
resolved through the stale entry of the current level (`lam.0` alone is rejected) -/
theorem orig_accepts_open_term :
    closedI id 0 witness = false ∧ (∃ t', dbToNameOrig witness = .ok t') ∧
    dbToNameOrig (.lam 0 (.var 0)) = .error (.freeIndex 0) :=
  ⟨rfl, ⟨_, rfl⟩, rfl⟩

/-- before the repair a binder whose own index is 1 takes the enclosing binder's name, and a variable
that referred to the *outer* lambda (index 2) comes back referring to the *inner* one (index 1) -/
theorem orig_rebinds :
    ∃ t', dbToNameOrig (.lam 0 (.lam 1 (.var 2))) = .ok t' ∧ nameToDb t' = .ok (.lam 0 (.lam 0 (.var 1))) :=
  ⟨_, rfl, rfl⟩

/-- the repaired converter on the same inputs -/
example : dbToName witness = .error (.freeIndex 0) := rfl
example : ∃ t', dbToName (.lam 0 (.lam 1 (.var 2))) = .ok t' ∧ nameToDb t' = .ok (.lam 0 (.lam 0 (.var 2))) :=
  ⟨_, rfl, rfl⟩

/-- shadowing + duplicate unique with another text + binders under delay/constr/case -/
def sample : Term Name :=
  .lam ⟨"x", 0⟩ (.delay (.constr 0 [.lam ⟨"y", 0⟩ (.var ⟨"z", 0⟩), .case (.var ⟨"x", 0⟩) [.lam ⟨"x", 1⟩ (.var ⟨"q", 0⟩)]]))

example : nameToDb sample =
    .ok (.lam 0 (.delay (.constr 0 [.lam 0 (.var 1), .case (.var 1) [.lam 0 (.var 2)]]))) := rfl
example : freeOccs [] sample = [] := rfl
example : freeOccs [] (.app (.lam ⟨"x", 0⟩ (.var ⟨"x", 0⟩)) (.var ⟨"x", 0⟩)) = [⟨"x", 0⟩] := rfl
example : nameToDb (.app (.lam ⟨"x", 0⟩ (.var ⟨"x", 0⟩)) (.var ⟨"x", 0⟩)) = .error (.freeUnique ⟨"x", 0⟩) := rfl
example : closedI id 0 (Term.lam 0 (.app (.lam 0 (.var 2)) (.var 1)) : Term DeBruijn) = true
    ∧ bindersZero id (Term.lam 0 (.app (.lam 0 (.var 2)) (.var 1)) : Term DeBruijn) = true := ⟨rfl, rfl⟩
example : closedI NamedDeBruijn.index 0 (Term.lam ⟨"f", 7⟩ (.var ⟨"g", 1⟩)) = true := rfl
/-- `AlphaEq` separates `λx.λy.x` from `λx.λy.y` and identifies renamings -/
example : ¬ AlphaEq [] [] (.lam ⟨"x", 0⟩ (.lam ⟨"y", 1⟩ (.var ⟨"x", 0⟩))) (.lam ⟨"x", 0⟩ (.lam ⟨"y", 1⟩ (.var ⟨"y", 1⟩))) := by
  intro h
  have h1 := alpha_same_index_form _ _ h (.lam 0 (.lam 0 (.var 2))) rfl
  have h2 : nameToDb (.lam ⟨"x", 0⟩ (.lam ⟨"y", 1⟩ (.var ⟨"y", 1⟩))) = .ok (.lam 0 (.lam 0 (.var 1))) := rfl
  rw [h2] at h1
  simp at h1
example : AlphaEq [] [] (.lam ⟨"x", 0⟩ (.var ⟨"x", 0⟩)) (.lam ⟨"i_5", 5⟩ (.var ⟨"i_5", 5⟩)) :=
  AlphaEq.lam (AlphaEq.var rfl (by simp [resolve]))

/-- `CodeGenInterner::program` never panics, and in its output binding *by unique alone* (what
`name_to_debruijn` looks at) is exactly the binding *by (text, unique)* of its input: same index
term, and an input with a variable that has no binder of its key is still rejected afterwards. -/
theorem intern_preserves_binding (t : Term Name) :
    ∃ t', intern t = .ok t' ∧
      (∀ d, specByKey ckey [] t = .ok d → nameToDb t' = .ok d) ∧
      (∀ e, specByKey ckey [] t = .error e → ∃ n, nameToDb t' = .error (.freeUnique n)) := by
  obtain ⟨t', s', h1, _, _, hok, herr⟩ := internTerm_ok.1 t Interner.new [] iinv_new
  refine ⟨t', by simp [intern, h1, Except.map], ?_, ?_⟩
  · intro d hd; rw [nameToDb_eq_spec]; exact hok d hd
  · intro e he; rw [nameToDb_eq_spec]; exact herr e he

/-- resolution by key with `key = unique` is the converter's own resolution -/
theorem specByKey_unique_eq (t : Term Name) : specByKey (·.unique) [] t = nameToDb t := by
  rw [nameToDb_eq_spec]; exact specByKey_unique.1 t []

/-- optimiser-style input: every name has unique 0, binding is by text.  The converter alone would
bind `y` to the innermost lambda; after interning it refers to the outer one, as its key says. -/
example : nameToDb (.lam ⟨"y", 0⟩ (.lam ⟨"x", 0⟩ (.var ⟨"y", 0⟩))) = .ok (.lam 0 (.lam 0 (.var 1))) := rfl
example : specByKey ckey [] (.lam ⟨"y", 0⟩ (.lam ⟨"x", 0⟩ (.var ⟨"y", 0⟩))) = .ok (.lam 0 (.lam 0 (.var 2))) := rfl
example : ∃ t', intern (.lam ⟨"y", 0⟩ (.lam ⟨"x", 0⟩ (.var ⟨"y", 0⟩))) = .ok t' ∧ nameToDb t' = .ok (.lam 0 (.lam 0 (.var 2))) :=
  ⟨_, rfl, rfl⟩

end AikenVerif.C11
