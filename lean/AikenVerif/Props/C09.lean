import AikenVerif.Lemmas.GenState
import AikenVerif.Lemmas.Budget
/-!
# C09 — builds are deterministic: the state-machine part

Over the model of `Model/GenState.lean`: `finalize` resets all but the constant cache, well-scoped
code leaves the interner's map as it found it, replaying a cached constant's deltas equals
recompiling it; hence the output for a request does not depend on the requests served before
(`history_independent`, for an abstract `compile`; `history_independent_concrete` discharges its
hypotheses by the mechanism the code uses).  `fold_perm_invariant`, `sort_after_collect`: the two
justifications accepted by `tools/sites.py` for iterating a hash map on the output path.
-/
namespace AikenVerif.C09
open AikenVerif.GenState

/-- **`finalize` resets** every component to what `CodeGenerator::new` creates; only the constant
cache survives.  The first two conjuncts say it all; the others spell out `Resettable.init`. -/
theorem finalize_resets (g : Gen) :
    (finalize g).r = Resettable.init ∧ (finalize g).cache = g.cache
    ∧ (finalize g).r.cur = 0 ∧ (finalize g).r.idg = 0
    ∧ (finalize g).r.special = [] ∧ (finalize g).r.defined = [] ∧ (finalize g).r.cyclic = []
    ∧ ∀ t, (finalize g).r.ids t = [] := by
  simp [finalize, Resettable.init]

/-- the same for the abstract machine: whatever was compiled, the next request starts from `init` -/
theorem generate_resets {Req O R C : Type} (M : Machine Req O R C) (q : Req) (g : R × C) :
    (M.generate q g).2.1 = M.init := rfl

theorem with_zero (s : Resettable) : { s with cur := s.cur + 0, idg := s.idg + 0 } = s := by
  cases s; rfl

/-- scoped code acts on the state exactly as replaying a cache entry does -/
theorem scoped_run {env : List Text} {b : List Instr} (h : Scoped env b) :
    ∀ s : Resettable, (∀ t ∈ env, s.ids t ≠ []) →
      ∃ o, runBody b s = some (advance s (nIntern b) (nFresh b), o) := by
  induction h with
  | nil env => exact fun s _ => ⟨[], rfl⟩
  | emit env t rest ht _ ih =>
    intro s hs
    obtain ⟨o, ho⟩ := ih s hs
    obtain ⟨u, us, hid⟩ := List.exists_cons_of_ne_nil (hs t ht)
    exact ⟨[t, u] ++ o, runBody_cons_some (by simp only [step, lookup, hid]; rfl) ho⟩
  | fresh env rest _ ih =>
    intro s hs
    obtain ⟨o, ho⟩ := ih (advance s 0 1) hs
    rw [advance_advance, Nat.zero_add, Nat.add_comm 1] at ho
    exact ⟨[s.idg] ++ o, runBody_cons_some (i := .fresh) (s := s) rfl ho⟩
  | scope env t body rest _ _ ihb ihr =>
    intro s hs
    -- `intern t`, the body, `pop t` (the map is back, `t`'s unique is spent), the rest
    obtain ⟨ob, hob⟩ := ihb (intern s t) (interned_cons hs t)
    obtain ⟨or, hor⟩ := ihr (advance s (nIntern body + 1) (nFresh body)) hs
    have hpop : step (.pop t) (advance (intern s t) (nIntern body) (nFresh body))
        = some (advance s (nIntern body + 1) (nFresh body), []) := by
      simp only [step, popText_advance_intern, Option.map_some]
    have hrun := runBody_cons_some (i := .intern t) (s := s) rfl
      (runBody_append_some hob (runBody_cons_some hpop hor))
    rw [advance_advance] at hrun
    refine ⟨[] ++ (ob ++ ([] ++ or)), hrun.trans ?_⟩
    simp only [nIntern, nFresh, nIntern_append, nFresh_append, Nat.add_right_comm]

/-- **Scoped intern/pop** never hits the interner's `unreachable!`, restores the map, and moves the
counters by a function of the code alone. -/
theorem interner_balanced (env : List Text) (b : List Instr) (h : Scoped env b) :
    ∀ s : Resettable, (∀ t ∈ env, s.ids t ≠ []) →
      ∃ o, runBody b s = some ({ s with cur := s.cur + nIntern b, idg := s.idg + nFresh b }, o) :=
  scoped_run h

/-- the counters only grow while a program is compiled (and `finalize` resets them: `finalize_resets`) -/
theorem interner_counters_grow (env : List Text) (b : List Instr) (h : Scoped env b) (s s' : Resettable)
    (o : Out) (hs : ∀ t ∈ env, s.ids t ≠ []) (hrun : runBody b s = some (s', o)) :
    s.cur ≤ s'.cur ∧ s.idg ≤ s'.idg ∧ s'.ids = s.ids := by
  obtain ⟨o', ho'⟩ := scoped_run h s hs
  cases ho'.symm.trans hrun
  exact ⟨Nat.le_add_right _ _, Nat.le_add_right _ _, rfl⟩

/-- non-vacuity: `fn(x) { fn(y) { x y } x }` with a fresh id, from a state where text 7 is already bound -/
example : Scoped [7] [.intern 1, .intern 2, .emit 1, .emit 2, .pop 2, .emit 1, .fresh, .pop 1, .emit 7] :=
  Scoped.scope [7] 1 [.intern 2, .emit 1, .emit 2, .pop 2, .emit 1, .fresh] [.emit 7]
    (Scoped.scope [1, 7] 2 [.emit 1, .emit 2] [.emit 1, .fresh]
      (Scoped.emit _ 1 _ (by simp) (Scoped.emit _ 2 _ (by simp) (Scoped.nil _)))
      (Scoped.emit _ 1 _ (by simp) (Scoped.fresh _ _ (Scoped.nil _))))
    (Scoped.emit _ 7 _ (by simp) (Scoped.nil _))

theorem valid_insert (D : Defs) (c : Cache) (k : Nat) (hc : c.Valid D) :
    (c.insert k ⟨D.val k, nIntern (D.body k), nFresh (D.body k)⟩).Valid D := by
  intro k' e he
  simp only [Cache.insert] at he
  split at he
  · subst_vars
    exact (Option.some.inj he).symm
  · exact hc k' e he

theorem valid_empty (D : Defs) : Cache.empty.Valid D := nofun

/-- "same state and output as the reference run, and a valid cache" survives putting the same
output in front of both runs -/
theorem agree_prefix {D : Defs} (o₁ : Out) {x : Option (Resettable × Out × Cache)}
    {y : Option (Resettable × Out)} :
    (x.map (fun x => (x.1, x.2.1)) = y ∧ ∀ s' o c', x = some (s', o, c') → c'.Valid D) →
    (match x with
      | none => none
      | some (s', o, c') => some (s', o₁ ++ o, c') : Option (Resettable × Out × Cache)).map
        (fun x => (x.1, x.2.1))
      = (match y with
        | none => none
        | some (s', o) => some (s', o₁ ++ o))
    ∧ ∀ s' o c', (match x with
      | none => none
      | some (s', o, c') => some (s', o₁ ++ o, c') : Option (Resettable × Out × Cache))
        = some (s', o, c') → c'.Valid D := by
  rintro ⟨rfl, hvalid⟩
  cases x with
  | none => exact ⟨rfl, nofun⟩
  | some r => exact ⟨rfl, fun s' o c' e => by cases e; exact hvalid _ _ _ rfl⟩

/-- **Replay.**  Running a request through the cache (replaying `(interner_delta, id_gen_delta)` on
a hit, measuring and storing them on a miss) ends in the same state with the same output as
recompiling the constant at every reference — or both stop at the same `unreachable!` — and the
cache it leaves is valid again. -/
theorem cached_constant_replay (D : Defs) (hclosed : ∀ k, Scoped [] (D.body k)) :
    ∀ (p : List Instr) (s : Resettable) (c : Cache), c.Valid D →
      (exec D p s c).map (fun x => (x.1, x.2.1)) = execRe D p s
      ∧ ∀ s' o c', exec D p s c = some (s', o, c') → c'.Valid D := by
  intro p
  induction p with
  | nil => exact fun s c hc => ⟨rfl, fun s' o c' h => by cases h; exact hc⟩
  | cons i rest ih =>
    intro s c hc
    by_cases hconst : ∃ k, i = .const k
    · obtain ⟨k, rfl⟩ := hconst
      -- recompiling the definition advances `s` by the deltas a valid entry holds
      obtain ⟨ob, hob⟩ := scoped_run (hclosed k) s nofun
      cases hck : c k with
      | some e =>
        cases hc k e hck
        simp only [exec, hck, execRe, hob]
        exact agree_prefix [D.val k] (ih _ c hc)
      | none =>
        simp only [exec, hck, execRe, hob, advance_cur_sub, advance_idg_sub]
        exact agree_prefix [D.val k] (ih _ _ (valid_insert D c k hc))
    · -- any other instruction: the last clause of `exec` and of `execRe` (their third equation,
      -- which asks that `i` is no `const`) is a `step` and then the rest
      have hi : ∀ k, i = .const k → False := fun k h => hconst ⟨k, h⟩
      rw [exec.eq_3 _ _ _ _ _ hi, execRe.eq_3 _ _ _ _ hi]
      cases step i s with
      | none => exact ⟨rfl, nofun⟩
      | some r =>
        obtain ⟨s₁, o₁⟩ := r
        exact agree_prefix o₁ (ih s₁ c hc)

theorem runHistory_inv {Req O R C : Type} (M : Machine Req O R C) (Valid : C → Prop)
    (hkeep : ∀ q c, Valid c → Valid (M.compile q M.init c).2.2) :
    ∀ (h : List Req) (g : R × C), g.1 = M.init → Valid g.2 →
      (M.runHistory h g).1 = M.init ∧ Valid (M.runHistory h g).2 := by
  intro h
  induction h with
  | nil => exact fun g h₁ h₂ => ⟨h₁, h₂⟩
  | cons q rest ih =>
    intro g h₁ h₂
    exact ih (M.generate q g).2 rfl (show Valid (M.compile q g.1 g.2).2.2 from h₁ ▸ hkeep q g.2 h₂)

/-- **History independence.**  `compile` is any deterministic function of the request, the
resettable state and the cache; if cache contents are transparent (`hempty`, `hkeep`,
`htransparent`), the output for `q` after EVERY history `h` of requests served by one generator is
the output of a fresh generator. -/
theorem history_independent {Req O R C : Type} (M : Machine Req O R C) (Valid : C → Prop) (empty : C)
    (hempty : Valid empty)
    (hkeep : ∀ q c, Valid c → Valid (M.compile q M.init c).2.2)
    (htransparent : ∀ q c, Valid c → (M.compile q M.init c).1 = (M.compile q M.init empty).1)
    (h : List Req) (q : Req) :
    (M.generate q (M.runHistory h (M.init, empty))).1 = (M.generate q (M.init, empty)).1 := by
  obtain ⟨h₁, h₂⟩ := runHistory_inv M Valid hkeep h (M.init, empty) rfl hempty
  simp only [Machine.generate]
  rw [h₁]
  exact htransparent q _ h₂

/-- the hypotheses hold for the concrete machine — by `cached_constant_replay`, i.e. by the
mechanism the code relies on; so every history of requests gives the fresh output -/
theorem history_independent_concrete (D : Defs) (hclosed : ∀ k, Scoped [] (D.body k))
    (h : List (List Instr)) (q : List Instr) :
    ((concrete D).generate q ((concrete D).runHistory h (Resettable.init, Cache.empty))).1
      = ((concrete D).generate q (Resettable.init, Cache.empty)).1 := by
  have hcompile : ∀ q c, c.Valid D →
      ((concrete D).compile q Resettable.init c).1 = (execRe D q Resettable.init).map (·.2)
      ∧ ((concrete D).compile q Resettable.init c).2.2.Valid D := by
    intro q c hc
    obtain ⟨h₁, h₂⟩ := cached_constant_replay D hclosed q Resettable.init c hc
    simp only [concrete]
    rw [← h₁]
    cases hr : exec D q Resettable.init c with
    | none => exact ⟨rfl, hc⟩
    | some r => exact ⟨rfl, h₂ _ _ _ hr⟩
  exact history_independent (concrete D) (Cache.Valid D) Cache.empty (valid_empty D)
    (fun q c hc => (hcompile q c hc).2)
    (fun q c hc => (hcompile q c hc).1.trans (hcompile q _ (valid_empty D)).1.symm) h q

/-- a project with one constant (`fn(a) { fn(b) { a } }`-shaped definition using a fresh id) -/
def exampleDefs : Defs where
  body := fun _ => [.intern 1, .fresh, .intern 2, .emit 1, .pop 2, .pop 1]
  val := fun k => 40 + k

example : ∀ k, Scoped [] (exampleDefs.body k) := fun _ =>
  Scoped.scope [] 1 [.fresh, .intern 2, .emit 1, .pop 2] []
    (Scoped.fresh _ _ (Scoped.scope [1] 2 [.emit 1] [] (Scoped.emit _ 1 _ (by simp) (Scoped.nil _)) (Scoped.nil _)))
    (Scoped.nil _)

/-- the cache is really used and really replayed: the second request finds constant 0 cached,
its names still get the uniques (2, not 0) a recompilation would have produced -/
example :
    let q : List Instr := [.const 0, .intern 5, .emit 5, .pop 5, .fresh]
    (exec exampleDefs q Resettable.init Cache.empty).map (·.2.1) = some [40, 5, 2, 1]
    ∧ (exec exampleDefs q Resettable.init (Cache.empty.insert 0 ⟨40, 2, 1⟩)).map (·.2.1) = some [40, 5, 2, 1]
    ∧ (exec exampleDefs q Resettable.init (Cache.empty.insert 0 ⟨40, 0, 0⟩)).map (·.2.1) = some [40, 5, 0, 0] := by
  decide

/-- **The reset is necessary**: with a `finalize` that keeps `defined_functions`, the same request
compiled twice gives two different programs (the hoisted definition is missing the second time).
The second conjunct is apart from the reset: a request that emits a text nobody interned stops at
the interner's `unreachable!` (`none`), in the resetting machine too. -/
theorem reset_is_necessary :
    let M := concrete exampleDefs
    let q : List Instr := [.define 3, .emit 9]
    let q' : List Instr := [.define 3]
    (M.generateNoReset q' (M.generateNoReset q' (Resettable.init, Cache.empty)).2).1
      ≠ (M.generateNoReset q' (Resettable.init, Cache.empty)).1
    ∧ (M.generate q (Resettable.init, Cache.empty)).1 = none := by
  decide

/-- the general form, for insertions into a set / a key-addressed table (`List.Perm`: the orders in
which a hash map may hand out its entries) -/
theorem fold_perm_invariant_step {α β : Type} (f : β → α → β)
    (hcomm : ∀ b x y, f (f b x) y = f (f b y) x) {l₁ l₂ : List α} (h : l₁.Perm l₂) (init : β) :
    l₁.foldl f init = l₂.foldl f init :=
  h.foldl_eq' (fun x _ y _ b => hcomm b x y) init

/-- **Commutative fold.**  A reduction with an associative and commutative
operation is such a fold. -/
theorem fold_perm_invariant {α : Type} (op : α → α → α)
    (hcomm : ∀ a b, op a b = op b a) (hassoc : ∀ a b c, op (op a b) c = op a (op b c))
    {l₁ l₂ : List α} (h : l₁.Perm l₂) (init : α) :
    l₁.foldl op init = l₂.foldl op init :=
  fold_perm_invariant_step op (fun b x y => by rw [hassoc, hcomm x y, ← hassoc]) h init

example : [3, 1, 2].foldl Nat.max 0 = [2, 3, 1].foldl Nat.max 0 :=
  fold_perm_invariant Nat.max Nat.max_comm Nat.max_assoc (by decide) 0

/-- **Sort after collect.**  Sorting with a total order (antisymmetric: no two different items
compare equal) makes the result a function of the multiset of collected items. -/
theorem sort_after_collect {α : Type} (le : α → α → Bool)
    (htrans : ∀ a b c, le a b = true → le b c = true → le a c = true)
    (htotal : ∀ a b, (le a b || le b a) = true)
    (hantisymm : ∀ a b, le a b = true → le b a = true → a = b)
    {l₁ l₂ : List α} (h : l₁.Perm l₂) :
    l₁.mergeSort le = l₂.mergeSort le :=
  Budget.mergeSort_eq_of_perm le htrans htotal hantisymm h

example : ([3, 1, 2] : List Nat).mergeSort (fun a b => decide (a ≤ b)) = ([2, 3, 1] : List Nat).mergeSort (fun a b => decide (a ≤ b)) :=
  sort_after_collect (fun a b => decide (a ≤ b))
    (by intro a b c; simp only [decide_eq_true_eq]; omega)
    (by intro a b; simp only [Bool.or_eq_true, decide_eq_true_eq]; omega)
    (by intro a b; simp only [decide_eq_true_eq]; omega)
    (by decide)

/-- antisymmetry is needed: sorting pairs by their first component only (ties keep the
incoming order) is NOT a function of the multiset -/
example : ([(1, 10), (1, 20)] : List (Nat × Nat)).mergeSort (fun a b => decide (a.1 ≤ b.1))
    ≠ ([(1, 20), (1, 10)] : List (Nat × Nat)).mergeSort (fun a b => decide (a.1 ≤ b.1)) := by
  rw [List.mergeSort_of_pairwise (by simp), List.mergeSort_of_pairwise (by simp)]
  decide

end AikenVerif.C09
