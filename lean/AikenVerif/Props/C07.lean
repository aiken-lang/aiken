import AikenVerif.Lemmas.MatchCheck
import AikenVerif.Lemmas.MatchTree
import AikenVerif.Lemmas.ListSwitch
import AikenVerif.Lemmas.MatchPanic
/-!
# C07 — Pattern matching is exhaustive when accepted and first-match when run

Model: `AikenVerif/Model/Match.lean` (impl model of `tipo/exhaustive.rs` and of the loop of
`Environment::check_exhaustiveness`; spec `pmatch` / `firstMatch`; decision trees),
`AikenVerif/Model/MatchPanic.lean` (`is_useful` with its panics kept as outcomes) and
`AikenVerif/Model/ListSwitch.lean` (the list-length dispatch of a compiled `when`).

All theorems quantify over every signature `sg`, every matrix / clause list and every value.
Hypotheses are the decidable (Bool-valued) predicates

* `Sig.ok sg`            — constructor names of a type are distinct, field types are declared;
* `inhOk sg inh`         — the table `inh` holds one well-typed value per declared type
                           ("every type is inhabited");
* `Matrix.hasTy sg M ts` / `Pat.hasTyL sg v ts` / `Pat.hasTy sg p t` — patterns are well-typed;
* `Ty.ok sg t`           — the (column / scrutinee) type is declared.

Int / ByteArray literals are an infinite domain; lists are the data type `:: | []`, tuples and
pairs are single-constructor data types, so they need no separate treatment.
-/
namespace AikenVerif.C07
open AikenVerif.Match

/-! ## usefulness (`Matrix::is_useful`) -/

/-- **soundness**: a vector reported *not useful* matches no value that the matrix does not
already match -/
theorem useful_sound {sg : Sig} {M : Matrix} {v : Row} {ts : List Ty}
    (hM : Matrix.hasTy sg M ts = true) (hv : Pat.hasTyL sg v ts = true)
    (h : isUseful M v = false) :
    ∀ vs, Val.hasTyL sg vs ts = true → pmatchL v vs = true → ∃ r ∈ M, pmatchL r vs = true :=
  useful_sound_gen M v ts hM hv h

/-- **completeness**: a vector reported *useful* matches some well-typed value vector that no
row of the matrix matches -/
theorem useful_complete {sg : Sig} {inh : List Val} {M : Matrix} {v : Row} {ts : List Ty}
    (hs : Sig.ok sg = true) (hi : inhOk sg inh = true) (hts : ts.all (Ty.ok sg) = true)
    (hM : Matrix.hasTy sg M ts = true) (hv : Pat.hasTyL sg v ts = true)
    (h : isUseful M v = true) :
    ∃ vs, Val.hasTyL sg vs ts = true ∧ pmatchL v vs = true ∧ ∀ r ∈ M, pmatchL r vs = false :=
  useful_complete_gen hs hi M v ts hM hv (List.all_eq_true.mp hts) h

theorem useful_iff {sg : Sig} {inh : List Val} {M : Matrix} {v : Row} {ts : List Ty}
    (hs : Sig.ok sg = true) (hi : inhOk sg inh = true) (hts : ts.all (Ty.ok sg) = true)
    (hM : Matrix.hasTy sg M ts = true) (hv : Pat.hasTyL sg v ts = true) :
    isUseful M v = true ↔
      ∃ vs, Val.hasTyL sg vs ts = true ∧ pmatchL v vs = true ∧ ∀ r ∈ M, pmatchL r vs = false :=
  useful_iff_gen hs hi hM hv (List.all_eq_true.mp hts)

/-! ## missing patterns (`Matrix::collect_missing_patterns`) -/

/-- the report is empty exactly when every value of the scrutinee type is matched by a row -/
theorem missing_empty_iff_exhaustive {sg : Sig} {inh : List Val} {M : Matrix} {t : Ty}
    (hs : Sig.ok sg = true) (hi : inhOk sg inh = true) (ht : Ty.ok sg t = true)
    (hM : Matrix.hasTy sg M [t] = true) :
    collectMissing M 1 = [] ↔ ∀ x, Val.hasTy sg x t = true → ∃ r ∈ M, pmatchL r [x] = true := by
  constructor
  · intro he x hx
    exact missing_nil_exhaustive_gen hs M 1 [t] rfl hM he [x] (by simp [Val.hasTyL, hx])
  · intro hex
    cases he : collectMissing M 1 with
    | nil => rfl
    | cons p ps =>
      obtain ⟨vs, h1, _, h3⟩ := missing_witness_gen hs hi M 1 [t] rfl (by simpa using ht) hM p
        (he ▸ List.mem_cons_self)
      obtain ⟨x, rfl, hx⟩ := Val.hasTyL_singleton h1
      obtain ⟨r, hr, hm⟩ := hex x hx
      rw [h3 r hr] at hm
      cases hm

/-- every reported missing pattern is unmatched: NO value it matches is matched by a row —
for matrices without Int/ByteArray literal patterns (no typing hypothesis needed) -/
theorem missing_are_unmatched {M : Matrix} (hlf : Matrix.litFree M = true) {p : Pat}
    (hp : [p] ∈ collectMissing M 1) :
    ∀ x, pmatch p x = true → ∀ r ∈ M, pmatchL r [x] = false := by
  intro x hx r hr
  exact missing_unmatched_gen M 1 hlf [p] hp [x] (by simp [pmatchL, hx]) r hr

/-- with literal patterns the checker prints `_` in the literal's position, so only this holds:
every reported missing pattern has a well-typed instance that no row matches.  "Every instance",
as in `missing_are_unmatched`, is false for the code by design when the matrix contains literals:
`when x is { 1 -> .. }` reports `_`. -/
theorem missing_are_unmatched_partial {sg : Sig} {inh : List Val} {M : Matrix} {t : Ty}
    (hs : Sig.ok sg = true) (hi : inhOk sg inh = true) (ht : Ty.ok sg t = true)
    (hM : Matrix.hasTy sg M [t] = true) {p : Pat} (hp : [p] ∈ collectMissing M 1) :
    ∃ x, Val.hasTy sg x t = true ∧ pmatch p x = true ∧ ∀ r ∈ M, pmatchL r [x] = false :=
  escapes_singleton.mp (missing_witness_gen hs hi M 1 [t] rfl (by simpa using ht) hM [p] hp)

/-- every reported row consists of exactly one pattern (what `flatten` in the caller relies on) -/
theorem missing_width (M : Matrix) : ∀ r ∈ collectMissing M 1, r.length = 1 :=
  collectMissing_length M 1

/-! ## the checker (`Environment::check_exhaustiveness`) -/

/-- **accept ⇔ no clause is subsumed by the earlier ones ∧ the clauses cover every value** -/
theorem check_accepts_iff {sg : Sig} {inh : List Val} {t : Ty} (cs : List Pat)
    (hs : Sig.ok sg = true) (hi : inhOk sg inh = true) (ht : Ty.ok sg t = true)
    (hcs : cs.all (fun p => Pat.hasTy sg p t) = true) :
    checkExhaustive cs = .ok ↔
      (∀ i (h : i < cs.length), ∃ x, Val.hasTy sg x t = true ∧ pmatch cs[i] x = true ∧
          ∀ p ∈ cs.take i, pmatch p x = false) ∧
      (∀ x, Val.hasTy sg x t = true → ∃ p ∈ cs, pmatch p x = true) := by
  have hcs' := List.all_eq_true.mp hcs
  unfold checkExhaustive
  rw [checkLoop_ok cs [] 0]
  simp only [List.nil_append]
  rw [missing_empty_iff_exhaustive hs hi ht (rowsOf_hasTy hcs')]
  refine and_congr (forall_congr' fun i => forall_congr' fun hi' => ?_)
    (forall_congr' fun x => imp_congr_right fun _ => rowsOf_matches cs x)
  exact useful_rowsOf_iff hs hi ht (fun p hp => hcs' p (List.mem_of_mem_take hp))
    (hcs' _ (List.getElem_mem hi'))

/-- a clause is reported redundant only if no value can reach it: every value it matches is
matched by an earlier clause -/
theorem check_redundant_sound {sg : Sig} {t : Ty} (cs : List Pat) {k : Nat}
    (hcs : cs.all (fun p => Pat.hasTy sg p t) = true)
    (h : checkExhaustive cs = .redundant k) :
    ∃ hk : k < cs.length, ∀ x, Val.hasTy sg x t = true → pmatch cs[k] x = true →
      ∃ p ∈ cs.take k, pmatch p x = true := by
  have hcs' := List.all_eq_true.mp hcs
  obtain ⟨j, e, hj, hu⟩ := checkLoop_redundant cs [] 0 k h
  obtain rfl : k = j := by rw [e, Nat.zero_add]
  exact ⟨hj, covered_of_not_useful (fun p hp => hcs' p (List.mem_of_mem_take hp))
    (hcs' _ (List.getElem_mem hj)) hu⟩

/-- when the checker answers `NotExhaustive{unmatched}`: the list is not empty and every listed
pattern has a well-typed instance matched by no clause; if no clause contains a literal, no
instance of a listed pattern is matched by any clause -/
theorem check_notExhaustive_sound {sg : Sig} {inh : List Val} {t : Ty} (cs : List Pat) {ms : List Pat}
    (hs : Sig.ok sg = true) (hi : inhOk sg inh = true) (ht : Ty.ok sg t = true)
    (hcs : cs.all (fun p => Pat.hasTy sg p t) = true)
    (h : checkExhaustive cs = .notExhaustive ms) :
    ms ≠ [] ∧
    (∀ q ∈ ms, ∃ x, Val.hasTy sg x t = true ∧ pmatch q x = true ∧ ∀ p ∈ cs, pmatch p x = false) ∧
    (Matrix.litFree (rowsOf cs) = true →
      ∀ q ∈ ms, ∀ x, pmatch q x = true → ∀ p ∈ cs, pmatch p x = false) := by
  have hcs' := List.all_eq_true.mp hcs
  obtain ⟨hne, e⟩ := checkLoop_notExhaustive cs [] 0 ms h
  simp only [List.nil_append] at e
  refine ⟨hne, ?_, ?_⟩
  · intro q hq
    rw [e, mem_flatten_of_length (missing_width _)] at hq
    obtain ⟨x, h1, h2, h3⟩ := missing_are_unmatched_partial hs hi ht (rowsOf_hasTy hcs') hq
    exact ⟨x, h1, h2, (rowsOf_unmatched cs x).mp h3⟩
  · intro hlf q hq x hx
    rw [e, mem_flatten_of_length (missing_width _)] at hq
    exact (rowsOf_unmatched cs x).mp (missing_are_unmatched hlf hq x hx)

/-! ## the checker's partial operations are never reached on well-typed input

`Model/MatchPanic.lean` keeps the Rust's `unreachable!("constructors and literals should never
align …")` and `self.0[0]` on an empty row as the outcome `Out.panic`. -/

/-- `Matrix::is_useful` neither panics nor diverges on a well-typed matrix and vector: for every
large enough fuel the panic-aware model returns `ok` with the value of `isUseful` -/
theorem useful_never_panics {sg : Sig} {M : Matrix} {v : Row} {ts : List Ty}
    (hs : Sig.ok sg = true) (hM : Matrix.hasTy sg M ts = true) (hv : Pat.hasTyL sg v ts = true) :
    ∃ n, ∀ fuel, n ≤ fuel → isUsefulX fuel M v = .ok (isUseful M v) :=
  isUsefulX_ok hs M v ts hM hv

/-- the partial operations of `collect_missing_patterns` on a matrix whose first column has a
data type: every row has a head (`collect_ctors`), and specialising by a constructor never meets
a literal or an empty row.  (The matrices of the recursive calls are typed again:
`specCtor_hasTy`, `specWild_hasTy`.) -/
theorem specialize_never_panics {sg : Sig} {M : Matrix} {t : Nat} {ts : List Ty} (c a : Nat)
    (hM : Matrix.hasTy sg M (.data t :: ts) = true) :
    allNonEmpty M = true ∧ filterMapX (specRowCtorX c a) M = .ok (specCtor c a M) :=
  ⟨allNonEmpty_of_hasTy hM, filterMapX_ctor_ok c a hM⟩

/-- `recover_ctor`'s `split_off(arity)` is within bounds: the rows it is applied to have
`arity + n - 1 ≥ arity` patterns (for `n ≥ 1`) -/
theorem recover_ctor_split_ok (M : Matrix) (arity n : Nat) (hn : n ≠ 0) :
    ∀ r ∈ collectMissing M (arity + n - 1), arity ≤ r.length :=
  fun _ hr => arity_le_length_of_mem hn hr

/-- `Pattern::pretty` never meets a literal (`unreachable!("maybe never happens?")`): no reported
missing pattern contains one, whatever the matrix -/
theorem pretty_never_sees_literal (M : Matrix) (n : Nat) :
    ∀ r ∈ collectMissing M n, Pat.litFreeL r = true :=
  collectMissing_litFree M n

/-! ## run time: the first matching clause -/

/-- `firstMatch` picks a matching clause and none before it matches -/
theorem firstMatch_spec (cs : List Pat) (x : Val) (i : Nat) :
    firstMatch cs x = some i ↔
      ∃ h : i < cs.length, pmatch cs[i] x = true ∧ ∀ p ∈ cs.take i, pmatch p x = false := by
  induction cs generalizing i with
  | nil => exact ⟨fun h => (by cases h), fun ⟨h, _⟩ => absurd h (Nat.not_lt_zero _)⟩
  | cons p ps ih =>
    cases i with
    | zero =>
      rw [firstMatch_cons_zero]
      exact ⟨fun h => ⟨Nat.succ_pos _, h, nofun⟩, fun ⟨_, h, _⟩ => h⟩
    | succ i =>
      -- clause `i + 1` of `p :: ps` is clause `i` of `ps`, and `p` comes before it
      rw [firstMatch_cons_succ, ih]
      constructor
      · rintro ⟨hp, hi, hm, hall⟩
        refine ⟨Nat.succ_lt_succ hi, hm, fun q hq => ?_⟩
        rcases List.mem_cons.mp hq with rfl | hq
        · exact hp
        · exact hall q hq
      · rintro ⟨hi, hm, hall⟩
        exact ⟨hall p List.mem_cons_self, Nat.lt_of_succ_lt_succ hi, hm,
          fun q hq => hall q (List.mem_cons_of_mem _ hq)⟩

/-- every value of an accepted clause list has a first matching clause (no run-time
"no clause matched" for accepted programs) -/
theorem accepted_firstMatch_total {sg : Sig} {inh : List Val} {t : Ty} (cs : List Pat)
    (hs : Sig.ok sg = true) (hi : inhOk sg inh = true) (ht : Ty.ok sg t = true)
    (hcs : cs.all (fun p => Pat.hasTy sg p t) = true) (h : checkExhaustive cs = .ok) :
    ∀ x, Val.hasTy sg x t = true → ∃ i, firstMatch cs x = some i := by
  intro x hx
  have := ((check_accepts_iff cs hs hi ht hcs).mp h).2 x hx
  rwa [Option.isSome_iff_exists.symm, firstMatch_isSome, List.any_eq_true]

/-! ## source patterns: bindings and hoisted clause calls -/

/-- a source pattern binds variables exactly when its simplified matrix pattern matches -/
theorem bind_iff_matches (p : SPat) (v : Val) : (bind p v).isSome = pmatch (simplify p) v :=
  bind_isSome p v

/-- "each pattern variable is bound to the corresponding sub-value": the value bound to a variable
is the sub-value of the scrutinee at the variable's occurrence path (the `Assigned { path }` of
decision_tree.rs: argument indexes from the root), in binding order -/
theorem bindings_are_subvalues (p : SPat) (x : Val) (bs : List (Nat × Val)) (h : bind p x = some bs) :
    (varPaths p []).map (fun xp => (xp.1, subAt xp.2 x)) = bs.map (fun b => (b.1, some b.2)) :=
  bind_paths p x x [] bs rfl h

/-- hoisted clause bodies (repaired leaf): whatever order a leaf collected the clause's assignments
in, the body sees every variable bound to the sub-value at that variable's own path -/
theorem hoisted_call_fixed_correct (params leaf : List Assign) (root : Val)
    (hd : (leaf.map (·.1)).Nodup) (hsub : ∀ p ∈ params, p ∈ leaf) :
    callEnvFixed params leaf root = params.map (fun p => (p.1, subAt p.2 root)) := by
  simp only [callEnvFixed, reorderArgs_eq hd hsub]
  exact List.zip_map'

/-- before the fix the arguments were passed in the leaf's own order: with the assignments of
`([Some(a), ..], H3(b, c, _))` collected as `[b, c, a]` by one leaf and `[a, b, c]` by the first one,
`a` receives the value of `b`, `b` that of `c`, `c` that of `a` -/
example :
    let root : Val := .ctor 0 [.ctor 1 [.ctor 2 [.lit (.int 7)], .ctor 3 []], .ctor 4 [.lit (.int 1), .lit (.int 2), .lit (.int 3)]]
    let params : List Assign := [(0, [0, 0, 0]), (1, [1, 0]), (2, [1, 1])]
    let leaf : List Assign := [(1, [1, 0]), (2, [1, 1]), (0, [0, 0, 0])]
    callEnvUnfixed params leaf root = [(0, some (.lit (.int 1))), (1, some (.lit (.int 2))), (2, some (.lit (.int 7)))] ∧
    callEnvFixed params leaf root = [(0, some (.lit (.int 7))), (1, some (.lit (.int 1))), (2, some (.lit (.int 2)))] :=
  ⟨rfl, rfl⟩

/-- the clause chosen with bindings is the first clause whose simplified pattern matches -/
theorem firstBind_is_firstMatch (cs : List SPat) (x : Val) :
    (firstBind cs x).map (·.1) = firstMatch (cs.map simplify) x :=
  firstBindFrom_index 0 cs x

/-! ## decision trees -/

/-- for an ARBITRARY column-selection function, evaluating the compiled tree
on a scrutinee returns the first clause, in source order, whose pattern matches -/
theorem tree_is_firstMatch (sel : IMatrix → Nat) (cs : List Pat) (x : Val) :
    evalTree (buildClauses sel cs) [x] = firstMatch cs x := by
  unfold buildClauses firstMatch
  rw [tree_correct sel (indexRows 0 cs) [x] (by simpa using indexRows_width 0 cs)]
  exact firstMatchRows_indexRows 0 cs x

/-- the general form over matrices (any number of columns) -/
theorem tree_is_firstMatch_rows (sel : IMatrix → Nat) (M : IMatrix) (vs : List Val)
    (hw : ∀ r ∈ M, r.2.length = vs.length) :
    evalTree (build sel M) vs = firstMatchRows M vs :=
  tree_correct sel M vs hw

/-! ## the list-length dispatch of the real decision-tree compiler (fixed behaviour)

`AikenVerif/Model/ListSwitch.lean` mirrors the fold of `TreeGen::do_build_tree` that builds one
sub-matrix per `CaseTest::List(n)` / `ListWithTail(n)` and the selection made by
`CodeGenerator::handle_decision_tree` for a list of length `L`, as repaired by
`proposed_fixes/C07-list-tail-case-order.diff` (cases picked by length). -/

open AikenVerif.ListSwitch in
/-- with the fix, a list of length `L` is handled by exactly the clauses whose list pattern
admits length `L`, in source order — so the first matching clause is never lost by the dispatch -/
theorem list_dispatch_fixed_correct (rows : List ListSwitch.Row) (L : Nat) :
    dispatchFixed rows L = (rows.filter (fun r => r.1.admits L)).map (·.2) :=
  dispatchFixed_eq rows L

open AikenVerif.ListSwitch in
/-- in particular the first clause offered to a list of length `L` is the first one, in source
order, whose list shape admits `L` -/
theorem list_dispatch_fixed_head (rows : List ListSwitch.Row) (L : Nat) :
    (dispatchFixed rows L).head? = (rows.find? (fun r => r.1.admits L)).map (·.2) := by
  rw [dispatchFixed_eq, List.head?_map, List.head?_filter]

open AikenVerif.ListSwitch in
/-- the selection before the fix (`tail_cases.last()`, first tail case with `i ≤ index`) loses
the first clause: `when xs is { [_, _, ..] -> 0  [_, ..] -> 1  [] -> 2 }` on a 3-element list is
sent to clause 1 only; and `[1, ..] / [_, 5, ..] / [_, _, 7, ..] / _` on a 2-element list never
sees clause 1. -/
example :
    dispatchUnfixed [(.tail 2, 0), (.tail 1, 1), (.list 0, 2)] 3 = [1] ∧
    dispatchFixed [(.tail 2, 0), (.tail 1, 1), (.list 0, 2)] 3 = [0, 1] ∧
    dispatchUnfixed [(.tail 1, 0), (.tail 2, 1), (.tail 3, 2), (.wild, 3)] 2 = [0, 3] ∧
    dispatchFixed [(.tail 1, 0), (.tail 2, 1), (.tail 3, 2), (.wild, 3)] 2 = [0, 1, 3] := by
  decide +kernel

/-! ## the hypotheses are satisfiable on a non-trivial instance -/

section Examples

/-- `0: List<Int>` (`::`=0 `[]`=1), `1: Option<List<Int>>` (`Some`=3 `None`=2), `2: (Option<..>, Int)` (`__Tuple`=4) -/
def exSig : Sig :=
  [ [(0, [.int, .data 0]), (1, [])],
    [(3, [.data 0]), (2, [])],
    [(4, [.data 1, .int])] ]

def exInh : List Val := [.ctor 1 [], .ctor 2 [], .ctor 4 [.ctor 2 [], .lit (.int 0)]]

def listAlts : Alts := declAlts [(0, [.int, .data 0]), (1, [])]
def optAlts : Alts := declAlts [(3, [.data 0]), (2, [])]
def tupAlts : Alts := declAlts [(4, [.data 1, .int])]

/-- `(Some([1, ..]), _)`, `(None, 7)`, `(_, _)` -/
def exClauses : List Pat :=
  [ .ctor 4 tupAlts [.ctor 3 optAlts [.ctor 0 listAlts [.lit (.int 1), .wild]], .wild],
    .ctor 4 tupAlts [.ctor 2 optAlts [], .lit (.int 7)],
    .wild ]

example : Sig.ok exSig = true ∧ inhOk exSig exInh = true ∧ Ty.ok exSig (.data 2) = true ∧
    exClauses.all (fun p => Pat.hasTy exSig p (.data 2)) = true ∧
    Matrix.hasTy exSig (rowsOf exClauses) [.data 2] = true ∧
    [Ty.data 2].all (Ty.ok exSig) = true := by decide +kernel

/-- hypotheses of `useful_sound` / `useful_complete` on a two-column matrix with a literal,
a list pattern and a wildcard -/
example :
    Matrix.hasTy exSig [[.ctor 3 optAlts [.wild], .lit (.int 7)], [.wild, .wild]] [.data 1, .int] = true ∧
    Pat.hasTyL exSig [.ctor 2 optAlts [], .wild] [.data 1, .int] = true ∧
    [Ty.data 1, Ty.int].all (Ty.ok exSig) = true := by decide +kernel

/-- the literal-free hypothesis of `missing_are_unmatched` -/
example : Matrix.litFree [[.ctor 3 optAlts [.ctor 0 listAlts [.wild, .wild]]]] = true := by decide +kernel

/-- the spec side is executable in the kernel: first match and bindings -/
example :
    firstMatch exClauses (.ctor 4 [.ctor 2 [], .lit (.int 7)]) = some 1 ∧
    firstMatch exClauses (.ctor 4 [.ctor 2 [], .lit (.int 8)]) = some 2 ∧
    firstBind [.ctor 4 tupAlts [.as_ 5 (.ctor 2 optAlts []), .var 6]]
      (.ctor 4 [.ctor 2 [], .lit (.int 8)]) = some (0, [(5, .ctor 2 []), (6, .lit (.int 8))]) :=
  ⟨rfl, rfl, rfl⟩

end Examples

end AikenVerif.C07
