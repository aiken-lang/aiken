import AikenVerif.Lemmas.Mini
import AikenVerif.Model.Spec
/-!
# C01 — compiled code computes what the Aiken source means

Level: translation validation against the Lean-defined source semantics `Mini.evalSrc` (harness
`c01-source`: the REAL parser, type checker, code generator, optimiser and machine on generated
modules × arguments, read back through the representation relation and compared with
`driver mini`).  There is no model of the code generator.  Machine-checked here, for ALL
expressions of the modelled language:

* `evalSrc_fuel_mono`, `evalSrc_deterministic`: the semantics is a function of the program and its
  arguments — the fuel only decides whether the answer is reached;
* `when_is_firstMatch`, `firstMatch_spec`: a `when` runs the first clause whose pattern matches;
* `and_short_circuits`, `or_short_circuits`, `and_or_strict_left`, `div_is_floor`, `unused_let_not_evaluated`;
* lowering lemmas in the UPLC model (`…_partial` w.r.t. C01: they justify the representation
  relation and the fixed lowering schemes, not the whole compiler): `and_or_lowering_partial`
  (delayed `ifThenElse` run by the specification machine, through `delayedIte_const`),
  `div_mod_lowering_partial`, `arith_lowering_partial`.
-/
namespace AikenVerif.C01
open AikenVerif AikenVerif.Mini

/-- more fuel never changes a finished evaluation (result and emitted traces) -/
theorem evalSrc_fuel_mono (P : Mini.Program) (m : Mode) (n n' : Nat) (env : Env) (e : Expr) (h : n ≤ n')
    (hfin : result (evalSrc P m n env e) ≠ .outOfFuel) :
    evalSrc P m n' env e = evalSrc P m n env e := by
  obtain ⟨k, rfl⟩ := Nat.exists_eq_add_of_le h
  exact (eval_mono P m n k env e hfin).symm

/-- the outcome does not depend on the fuel: any two finished runs agree -/
theorem evalSrc_deterministic (P : Mini.Program) (m : Mode) (n n' : Nat) (env : Env) (e : Expr)
    (h : result (evalSrc P m n env e) ≠ .outOfFuel) (h' : result (evalSrc P m n' env e) ≠ .outOfFuel) :
    evalSrc P m n env e = evalSrc P m n' env e := by
  rcases Nat.le_total n n' with hle | hle
  · exact (evalSrc_fuel_mono P m n n' env e hle h).symm
  · exact evalSrc_fuel_mono P m n' n env e hle h'

/-- what `firstMatch` selects: the first clause that matches, none before it does -/
theorem firstMatch_spec (v : Val) (cs : List (Pat × Expr)) (bs : Env) (b : Expr) :
    firstMatch v cs = some (bs, b) ↔
      ∃ pre p post, cs = pre ++ (p, b) :: post ∧ matchPat p v = some bs ∧
        ∀ c ∈ pre, matchPat c.1 v = none := by
  rw [firstMatch_eq_findSome?, List.findSome?_eq_some_iff]
  constructor
  · rintro ⟨pre, ⟨p, b0⟩, post, rfl, h, hpre⟩
    obtain ⟨bs0, hp, hb⟩ := Option.map_eq_some_iff.mp h
    cases hb
    exact ⟨pre, p, post, rfl, hp, fun c hc => Option.map_eq_none_iff.mp (hpre c hc)⟩
  · rintro ⟨pre, p, post, rfl, hp, hpre⟩
    exact ⟨pre, (p, b), post, rfl, congrArg (Option.map (·, b)) hp,
      fun c hc => congrArg (Option.map (·, c.2)) (hpre c hc)⟩

/-- **first-match**: once the scrutinee has a value, `when` is the body of the first matching clause
evaluated under that clause's bindings (and nothing else; no clause → ill-typed, the checker demands
exhaustiveness) -/
theorem when_is_firstMatch (P : Mini.Program) (m : Mode) (n : Nat) (env : Env) (s : Expr)
    (cs : List (Pat × Expr)) (v : Val) (hs : eval P m n env s = ret v) :
    evalSrc P m (n + 1) env (.when s cs) =
      match firstMatch v cs with
      | some (bs, b) => evalSrc P m n (bs ++ env) b
      | none => stuckM := by
  show bind (eval P m n env s) _ = _
  rw [hs]
  rfl

/-- `&&` does not evaluate its right operand when the left one is `False` -/
theorem and_short_circuits (P : Mini.Program) (m : Mode) (n : Nat) (env : Env) (a b : Expr)
    (ha : eval P m n env a = ret (.bool false)) :
    evalSrc P m (n + 1) env (.and a b) = ret (.bool false) := by
  show bind (eval P m n env a) _ = _
  rw [ha]
  rfl

/-- `||` does not evaluate its right operand when the left one is `True` -/
theorem or_short_circuits (P : Mini.Program) (m : Mode) (n : Nat) (env : Env) (a b : Expr)
    (ha : eval P m n env a = ret (.bool true)) :
    evalSrc P m (n + 1) env (.or a b) = ret (.bool true) := by
  show bind (eval P m n env a) _ = _
  rw [ha]
  rfl

/-- and both are strict in the left operand: `fail && b` aborts whatever `b` is -/
theorem and_or_strict_left (P : Mini.Program) (m : Mode) (n : Nat) (env : Env) (b : Expr) (t : Bool) :
    result (evalSrc P m (n + 2) env (.and (.fail t) b)) = .abort ∧
    result (evalSrc P m (n + 2) env (.or (.fail t) b)) = .abort := ⟨rfl, rfl⟩

/-- `/` and `%` are floor division and modulo, and abort on a zero divisor -/
theorem div_is_floor (a b : Int) :
    binOp .div (.int a) (.int b) = (if b = 0 then .abort else .val (.int (a.fdiv b))) ∧
    binOp .mod (.int a) (.int b) = (if b = 0 then .abort else .val (.int (a.fmod b))) := ⟨rfl, rfl⟩

example : binOp .div (.int (-7)) (.int 2) = .val (.int (-4)) ∧ binOp .mod (.int (-7)) (.int 2) = .val (.int 1) ∧
    binOp .div (.int 7) (.int (-2)) = .val (.int (-4)) ∧ binOp .mod (.int 7) (.int (-2)) = .val (.int (-1)) :=
  ⟨rfl, rfl, rfl, rfl⟩

/-- an unused `let` is removed, its right-hand side is not evaluated (documented compiler behaviour) -/
theorem unused_let_not_evaluated (P : Mini.Program) (m : Mode) (n : Nat) (env : Env) (x : Nat) (a b : Expr) :
    evalSrc P m (n + 1) env (.letE x false a b) = evalSrc P m n env b := rfl

section Lowering

def nm (s : String) : NamedDeBruijn := ⟨s, 0⟩
def cBool (b : Bool) : NTerm := .const (.bool b)

/-- `builder.rs::delayed_if_then_else`: `force (ifThenElse c (delay t) (delay e))` -/
def delayedIte (c t e : NTerm) : NTerm :=
  .force (.app (.app (.app (.force (.builtin .ifThenElse)) c) (.delay t)) (.delay e))

/-- `a && b` is lowered to `delayed_if_then_else(a, b, False)`, `a || b` to `(a, True, b)` -/
def andTerm (a b : NTerm) : NTerm := delayedIte a b (cBool false)
def orTerm (a b : NTerm) : NTerm := delayedIte a (cBool true) b

/-- at any position; the branch not chosen stays under its `delay` -/
theorem delayedIte_const (sem : Sem) (fuel : Nat) (ctx : Ctx) (env : List Value) (c : Bool) (t e : NTerm) :
    Spec.runFrom sem (denotation sem) (fuel + 17) (.compute ctx env (delayedIte (cBool c) t e)) =
    Spec.runFrom sem (denotation sem) fuel (.compute ctx env (if c then t else e)) := by
  cases c <;> rfl

/-- run by the SPECIFICATION machine, the lowering of `&&` / `||` on Boolean constants yields the
representation of the source result, and does not touch the right operand when the left decides
(`error` stands for an operand whose evaluation fails).  `_partial`: fixed operands, not arbitrary
sub-terms — a congruence theorem would need a logical relation over the machine. -/
theorem and_or_lowering_partial (sem : Sem) (a b : Bool) :
    Spec.run sem (denotation sem) 40 (andTerm (cBool a) (cBool b)) = .done (cBool (a && b)) ∧
    Spec.run sem (denotation sem) 40 (orTerm (cBool a) (cBool b)) = .done (cBool (a || b)) ∧
    Spec.run sem (denotation sem) 40 (andTerm (cBool false) .error) = .done (cBool false) ∧
    Spec.run sem (denotation sem) 40 (orTerm (cBool true) .error) = .done (cBool true) ∧
    Spec.run sem (denotation sem) 40 (andTerm (cBool true) .error) = .fail ∧
    Spec.run sem (denotation sem) 40 (orTerm (cBool false) .error) = .fail ∧
    Spec.run sem (denotation sem) 40 (andTerm .error (cBool b)) = .fail := by
  have ite := delayedIte_const sem 23 [] []
  refine ⟨(ite a _ _).trans ?_, (ite a _ _).trans ?_, (ite false _ _).trans rfl, (ite true _ _).trans rfl,
    (ite true _ _).trans rfl, (ite false _ _).trans rfl, rfl⟩
  · cases a <;> rfl
  · cases a <;> rfl

/-- how an outcome of the source semantics looks on the machine -/
def reprInt : Mini.Outcome Val → Res Value
  | .val (.int n) => .ok (.con (.integer n))
  | .abort => .err
  | _ => .panic

/-- `/` is `divideInteger`, `%` is `modInteger`: same value, and both abort exactly on a zero divisor -/
theorem div_mod_lowering_partial (sem : Sem) (x y : Int) :
    callBuiltin sem .divideInteger [.con (.integer x), .con (.integer y)] = reprInt (binOp .div (.int x) (.int y)) ∧
    callBuiltin sem .modInteger [.con (.integer x), .con (.integer y)] = reprInt (binOp .mod (.int x) (.int y)) := by
  -- both sides branch on `y = 0` and agree in each branch
  constructor
  · show Res.bind (if y = 0 then Res.err else Res.ok (BOut.con (.integer (x.fdiv y)))) _ =
      reprInt (if y = 0 then .abort else .val (.int (x.fdiv y)))
    split <;> rfl
  · show Res.bind (if y = 0 then Res.err else Res.ok (BOut.con (.integer (x.fmod y)))) _ =
      reprInt (if y = 0 then .abort else .val (.int (x.fmod y)))
    split <;> rfl

/-- `+ - *` are the corresponding integer builtins (against `binOp`); the two comparison builtins are
stated against `x < y` and `x ≤ y` on the integers directly -/
theorem arith_lowering_partial (sem : Sem) (x y : Int) :
    callBuiltin sem .addInteger [.con (.integer x), .con (.integer y)] = reprInt (binOp .add (.int x) (.int y)) ∧
    callBuiltin sem .subtractInteger [.con (.integer x), .con (.integer y)] = reprInt (binOp .sub (.int x) (.int y)) ∧
    callBuiltin sem .multiplyInteger [.con (.integer x), .con (.integer y)] = reprInt (binOp .mul (.int x) (.int y)) ∧
    callBuiltin sem .lessThanInteger [.con (.integer x), .con (.integer y)] = .ok (.con (.bool (x < y))) ∧
    callBuiltin sem .lessThanEqualsInteger [.con (.integer x), .con (.integer y)] = .ok (.con (.bool (x ≤ y))) :=
  ⟨rfl, rfl, rfl, rfl, rfl⟩

end Lowering

end AikenVerif.C01
