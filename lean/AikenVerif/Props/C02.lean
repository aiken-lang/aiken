import AikenVerif.Model.Spec
import AikenVerif.Gen.Optimiser
/-!
# C02 — the optimiser never changes what compiler output computes

Level: translation validation (harness `c02-optimiser`: every (pre, post) pair the real code
generator hands to / gets from the optimiser, evaluated on the same arguments; every optimiser phase
applied separately under a panic guard).  Whole-optimiser soundness is NOT a theorem here.
Machine-checked are side conditions the rewrites rely on, over GENERATED tables, in the impl model
of the builtins (`callBuiltin`, tied to the Rust by C03/C04's correspondences) and the specification
machine (`Spec.run`).  Section `Contextual` has the rewrites at any position of a term, section
`CastPairs` the GENERATED pair table of `cast_data_reducer`.
-/
namespace AikenVerif.C02
open AikenVerif Gen

def cInt (n : Int) : Value := .con (.integer n)

theorem unwrapInteger_ok_or_err (v : Value) : v.unwrapInteger = .err ∨ ∃ n, v.unwrapInteger = .ok n := by
  unfold Value.unwrapInteger
  split
  · exact .inr ⟨_, rfl⟩
  · exact .inl rfl

theorem unwrapByteString_ok_or_err (v : Value) :
    v.unwrapByteString = .err ∨ ∃ b, v.unwrapByteString = .ok b := by
  unfold Value.unwrapByteString
  split
  · exact .inr ⟨_, rfl⟩
  · exact .inl rfl

theorem unwrapString_ok_or_err (v : Value) : v.unwrapString = .err ∨ ∃ s, v.unwrapString = .ok s := by
  unfold Value.unwrapString
  split
  · exact .inr ⟨_, rfl⟩
  · exact .inl rfl

/-- `k`, `k'` are what `callBuiltin` does with the result of the two calls: they differ only on a
passed-through argument, never on a constant -/
theorem swap_unwrapped {α} (u : Value → Res α) (hu : ∀ v, u v = .err ∨ ∃ a, u v = .ok a)
    (g : α → α → Const) (hg : ∀ a b, g a b = g b a) (x y : Value) (k k' : BOut → Res Value)
    (hk : ∀ c, k (.con c) = k' (.con c)) :
    ((u x).bind fun a => (u y).bind fun b => .ok (.con (g a b))).bind k =
    ((u y).bind fun a => (u x).bind fun b => .ok (.con (g a b))).bind k' := by
  rcases hu x with hx | ⟨a, hx⟩ <;> rcases hu y with hy | ⟨b, hy⟩ <;> rw [hx, hy]
  · rfl
  · rfl
  · rfl
  · exact (hk _).trans (by rw [hg]; rfl)

theorem bind_bind_congr {α β γ} (p : Res α) (F F' : α → Res β) (k k' : β → Res γ)
    (h : ∀ a, (F a).bind k = (F' a).bind k') : (p.bind F).bind k = (p.bind F').bind k' := by
  cases p <;> first | rfl | exact h _

def modelledCommutative : List Builtin :=
  [.addInteger, .multiplyInteger, .equalsInteger, .equalsByteString, .equalsString]

/-- the GENERATED list contains nothing but: the five modelled ones, `equalsData` (structural equality
of `PlutusData`), and BLS group operations (opaque in this development) -/
theorem order_agnostic_covered :
    ∀ b ∈ Gen.Optimiser.orderAgnostic,
      b ∈ modelledCommutative ∨ b = .equalsData ∨
      b ∈ [Builtin.bls12_381_G1_Equal, .bls12_381_G2_Equal, .bls12_381_G1_Add, .bls12_381_G2_Add] := by
  decide

/-- every order-agnostic builtin takes exactly two arguments and no force (the curry reducer swaps
the two arguments of such a call) -/
theorem order_agnostic_binary : ∀ b ∈ Gen.Optimiser.orderAgnostic, b.arity = 2 ∧ b.forceCount = 0 := by
  decide

/-- swapping the two arguments of a modelled order-agnostic builtin never changes the result —
for ALL argument values, including ill-typed ones (both orders then fail).  The content is about
`modelledCommutative` (`_hb` is not used); `order_agnostic_covered` ties that list to the generated one. -/
theorem order_agnostic_commutes (b : Builtin) (_hb : b ∈ Gen.Optimiser.orderAgnostic)
    (hm : b ∈ modelledCommutative) (sem : Sem) (x y : Value) :
    callBuiltin sem b [x, y] = callBuiltin sem b [y, x] := by
  simp only [modelledCommutative, List.mem_cons, List.mem_nil_iff, or_false] at hm
  rcases hm with rfl | rfl | rfl | rfl | rfl
  · exact swap_unwrapped Value.unwrapInteger unwrapInteger_ok_or_err (fun a c => .integer (a + c))
      (fun a c => by rw [Int.add_comm]) x y _ _ fun _ => rfl
  · exact swap_unwrapped Value.unwrapInteger unwrapInteger_ok_or_err (fun a c => .integer (a * c))
      (fun a c => by rw [Int.mul_comm]) x y _ _ fun _ => rfl
  · exact swap_unwrapped Value.unwrapInteger unwrapInteger_ok_or_err (fun a c => .bool (a == c))
      (fun a c => by rw [BEq.comm]) x y _ _ fun _ => rfl
  · exact swap_unwrapped Value.unwrapByteString unwrapByteString_ok_or_err (fun a c => .bool (a == c))
      (fun a c => by rw [BEq.comm]) x y _ _ fun _ => rfl
  · exact swap_unwrapped Value.unwrapString unwrapString_ok_or_err (fun a c => .bool (a == c))
      (fun a c => by rw [BEq.comm]) x y _ _ fun _ => rfl

/-- non-commutative builtins are not in the generated list (a constant on either side of `-`, `/`,
`<`, `appendByteString` … must not be swapped) -/
theorem non_commutative_not_listed :
    ∀ b ∈ [Builtin.subtractInteger, .divideInteger, .modInteger, .quotientInteger, .remainderInteger,
           .lessThanInteger, .lessThanEqualsInteger, .appendByteString, .appendString, .consByteString,
           .lessThanByteString, .lessThanEqualsByteString],
      b ∉ Gen.Optimiser.orderAgnostic := by decide

example : callBuiltin .E .subtractInteger [cInt 1, cInt 2] ≠ callBuiltin .E .subtractInteger [cInt 2, cInt 1] := by
  intro h
  cases h

/-- `convert_arithmetic_ops`: subtracting a constant is adding its negation -/
theorem arith_flip (sem : Sem) (x : Value) (c : Int) :
    callBuiltin sem .subtractInteger [x, cInt c] = callBuiltin sem .addInteger [x, cInt (-c)] :=
  bind_bind_congr x.unwrapInteger _ _ _ _ fun _ =>
    congrArg (fun n => Res.ok (Value.con (.integer n))) (Int.sub_eq_add_neg ..)

/-- `cast_data_reducer`, sound direction: unwrapping what was just wrapped gives the value back -/
theorem cast_data_cancel (sem : Sem) (n : Int) (b : Bytes) :
    (callBuiltin sem .iData [cInt n]).bind (fun d => callBuiltin sem .unIData [d]) = .ok (cInt n) ∧
    (callBuiltin sem .bData [.con (.bytestring b)]).bind (fun d => callBuiltin sem .unBData [d]) = .ok (.con (.bytestring b)) :=
  ⟨rfl, rfl⟩

/-- the other direction is NOT an identity: `iData (unIData d)` fails when `d` is not an integer, so
cancelling it (as `cast_data_reducer` does for `(IData, UnIData)`, `(BData, UnBData)`, `(ListData,
UnListData)`, `(MapData, UnMapData)`) turns a failing program into a succeeding one — this is the
check `expect n: Int = d` compiles to -/
theorem wrap_after_unwrap_not_identity (sem : Sem) :
    (callBuiltin sem .unIData [.con (.data (.bytes []))]).bind (fun v => callBuiltin sem .iData [v]) = .err ∧
    (callBuiltin sem .unBData [.con (.data (.int 0))]).bind (fun v => callBuiltin sem .bData [v]) = .err ∧
    (callBuiltin sem .unListData [.con (.data (.int 0))]).bind (fun v => callBuiltin sem .listData [v]) = .err ∧
    (callBuiltin sem .unMapData [.con (.data (.int 0))]).bind (fun v => callBuiltin sem .mapData [v]) = .err :=
  ⟨rfl, rfl, rfl, rfl⟩

/-- `force_delay_reducer` at the root -/
theorem force_delay_root (sem : Sem) (den : Builtin → List Value → Res Value) (fuel : Nat) (t : NTerm) :
    Spec.run sem den (fuel + 3) (.force (.delay t)) = Spec.run sem den fuel t := rfl

section
def nm (s : String) : NamedDeBruijn := ⟨s, 1⟩
def one : NTerm := .const (.integer 1)
def ite (c t e : NTerm) : NTerm :=
  .force (.app (.app (.app (.force (.builtin .ifThenElse)) c) (.delay t)) (.delay e))

/-- `[(lam d (if True then 1 else d)) error]`: the argument is evaluated first -/
def strictArg : NTerm := .app (.lam (nm "d") (ite (.const (.bool true)) one (.var (nm "d")))) .error
/-- the same with the argument inlined into the branch that is not taken -/
def inlinedArg : NTerm := ite (.const (.bool true)) one .error

/-- inlining a possibly failing argument under a `delay` that is not forced changes the outcome
(this is the side condition `must_execute` of `inline_reducer`; `carry_args_to_branch` counts the two
branches of `ifThenElse` / `chooseList` as not delayed when neither is `error`) -/
theorem inline_under_delay_changes_outcome (sem : Sem) :
    Spec.run sem (denotation sem) 40 strictArg = .fail ∧
    Spec.run sem (denotation sem) 40 inlinedArg = .done one :=
  ⟨rfl, rfl⟩
end


/-! ## Contextual facts: the rewrites at ANY position (any evaluation context, any environment)

The specification machine is environment-based, so a statement about the state
`compute ctx env t` with `ctx`, `env` universally quantified is a statement about the rewrite wherever
the machine meets the redex — not only at the root. -/
section Contextual
open Gen.Optimiser

/-- `force_delay_reducer`, first branch, at any position -/
theorem force_delay_anywhere (sem : Sem) (den : Builtin → List Value → Res Value) (fuel : Nat)
    (ctx : Ctx) (env : List Value) (t : NTerm) :
    Spec.runFrom sem den (fuel + 3) (.compute ctx env (.force (.delay t))) =
    Spec.runFrom sem den fuel (.compute ctx env t) := rfl

/-- `force_delay_reducer`, second branch (`delay (force x)` ↦ `x`): wherever the result is FORCED the
two are the same state three steps later — for any binding of `x`, bound or not -/
theorem delay_force_var_when_forced (sem : Sem) (den : Builtin → List Value → Res Value) (fuel : Nat)
    (ctx : Ctx) (env : List Value) (x : NamedDeBruijn) :
    Spec.runFrom sem den (fuel + 3) (.compute (.force :: ctx) env (.delay (.force (.var x)))) =
    Spec.runFrom sem den fuel (.compute (.force :: ctx) env (.var x)) := rfl

/-- … and the premise "the result is forced" is necessary: returned unforced the two differ when `x`
is not a delayed computation (the rewrite relies on the code generator's typing of `x`) -/
theorem delay_force_var_unforced_differs (sem : Sem) :
    Spec.run sem (denotation sem) 20 (.app (.lam (nm "x") (.delay (.force (.var (nm "x"))))) one)
      = .done (.delay (.force one)) ∧
    Spec.run sem (denotation sem) 20 (.app (.lam (nm "x") (.var (nm "x"))) one) = .done one :=
  ⟨rfl, rfl⟩

/-- does a term have the shape an arm of `lambda_reducer`'s `match arg_term` selects? -/
def selects : ArgShape → NTerm → Bool
  | .stringConstant, .const (.string _) => true
  | .constant, .const _ => true
  | .delayError, .delay .error => true
  | .lambda, .lam _ _ => true
  | .var, .var _ => true
  | .builtin, .builtin _ => true
  | .anythingElse, _ => true
  | _, _ => false

/-- the value a non-variable inlinable argument denotes in environment `env` -/
def argValue (env : List Value) : NTerm → Option Value
  | .const c => some (.con c)
  | .delay b => some (.delay b env)
  | .lam n b => some (.lam n b env)
  | .builtin b => some (.builtin b 0 [])
  | _ => none

theorem runFrom_next {sem : Sem} {den : Builtin → List Value → Res Value} {s s' : State} (fuel : Nat)
    (h : Spec.step sem den s = .next s') :
    Spec.runFrom sem den (fuel + 1) s = Spec.runFrom sem den fuel s' := by
  rw [Spec.runFrom, h]

theorem step_argValue {sem : Sem} {den : Builtin → List Value → Res Value} {ctx : Ctx} {env : List Value}
    {arg : NTerm} {v : Value} (hv : argValue env arg = some v) :
    Spec.step sem den (.compute ctx env arg) = .next (.ret ctx v) := by
  cases arg <;> cases hv <;> rfl

theorem step_var (sem : Sem) (den : Builtin → List Value → Res Value) (ctx : Ctx) (env : List Value)
    (x : NamedDeBruijn) :
    Spec.step sem den (.compute ctx env (.var x)) =
      match Spec.lookup env x.index with
      | some v => .next (.ret ctx v)
      | none => .fail := rfl

theorem lookup_last (env : List Value) (v : Value) : Spec.lookup (env ++ [v]) 1 = some v := by
  simp [Spec.lookup]

/-- over the GENERATED arm table of `lambda_reducer`: an argument is substituted for the parameter
only when it is a constant, `delay error`, a lambda, a variable or a builtin (a new arm answering
`true` for an application, `force`, `error`, `constr` or `case` does not get past this) -/
theorem lambda_reducer_substitutes_only_value_shapes :
    ∀ a ∈ lambdaReducerArms, a.2 ≠ .never →
      a.1 = .constant ∨ a.1 = .delayError ∨ a.1 = .lambda ∨ a.1 = .var ∨ a.1 = .builtin := by
  decide

theorem lambda_reducer_catch_all_refuses : (.anythingElse, .never) ∈ lambdaReducerArms := by decide

/-- every argument of a substituted shape other than a variable is a VALUE: the machine returns it in
one step, in any context and environment, without failing — so evaluating it zero times or many
times instead of once cannot change the outcome -/
theorem substituted_arg_is_value (sem : Sem) (den : Builtin → List Value → Res Value)
    (a : ArgShape × Verdict) (ha : a ∈ lambdaReducerArms) (hv : a.2 ≠ .never)
    (t : NTerm) (ht : selects a.1 t = true) (ctx : Ctx) (env : List Value) :
    (∃ v, argValue env t = some v ∧ Spec.step sem den (.compute ctx env t) = .next (.ret ctx v)) ∨
    (∃ x, t = .var x) := by
  cases t with
  | const _ | delay _ | lam _ _ | builtin _ => exact .inl ⟨_, rfl, rfl⟩
  | var x => exact .inr ⟨x, rfl⟩
  | _ =>
    -- the remaining formers are selected by the catch-all arm only
    rcases lambda_reducer_substitutes_only_value_shapes a ha hv with h | h | h | h | h <;>
      rw [h] at ht <;> cases ht

/-- a variable argument is returned in one step too, or is free — and then every occurrence it
would be substituted at fails as well -/
theorem substituted_var_is_value_or_free (sem : Sem) (den : Builtin → List Value → Res Value)
    (ctx : Ctx) (env : List Value) (x : NamedDeBruijn) :
    (∃ v, Spec.step sem den (.compute ctx env (.var x)) = .next (.ret ctx v)) ∨
    (∀ ctx', Spec.step sem den (.compute ctx' env (.var x)) = .fail) := by
  cases h : Spec.lookup env x.index with
  | some v => exact .inl ⟨v, by rw [step_var, h]⟩
  | none => exact .inr fun _ => by rw [step_var, h]

/-- beta at any position for a value argument -/
theorem beta_value_anywhere (sem : Sem) (den : Builtin → List Value → Res Value) (fuel : Nat)
    (ctx : Ctx) (env : List Value) (n : NamedDeBruijn) (body arg : NTerm) (v : Value)
    (hv : argValue env arg = some v) :
    Spec.runFrom sem den (fuel + 5) (.compute ctx env (.app (.lam n body) arg)) =
    Spec.runFrom sem den fuel (.compute ctx (env ++ [v]) body) := by
  -- two steps reach `arg` under the frame that holds the closure; `arg` returns `v`; the closure is entered
  show Spec.runFrom sem den (fuel + 1 + 1) (.compute (.awaitArg (.lam n body env) :: ctx) env arg) = _
  rw [runFrom_next _ (step_argValue hv)]
  rfl

/-- `identity_reducer` at any position: `[(lam x x) arg]` for a value-shaped `arg` returns to the
enclosing context exactly what computing `arg` alone returns -/
theorem identity_value_anywhere (sem : Sem) (den : Builtin → List Value → Res Value) (fuel : Nat)
    (ctx : Ctx) (env : List Value) (s : String) (arg : NTerm) (v : Value)
    (hv : argValue env arg = some v) :
    Spec.runFrom sem den (fuel + 6) (.compute ctx env (.app (.lam ⟨s, 1⟩ (.var ⟨s, 1⟩)) arg)) =
      Spec.runFrom sem den fuel (.ret ctx v) ∧
    Spec.runFrom sem den (fuel + 1) (.compute ctx env arg) = Spec.runFrom sem den fuel (.ret ctx v) := by
  refine ⟨?_, runFrom_next fuel (step_argValue hv)⟩
  rw [show fuel + 6 = (fuel + 1) + 5 from rfl, beta_value_anywhere sem den (fuel + 1) ctx env ⟨s, 1⟩ _ arg v hv]
  exact runFrom_next fuel (by rw [step_var, lookup_last])

/-- non-vacuity: the table does substitute something, and a selected term exists for the shape -/
example : (ArgShape.constant, Verdict.always) ∈ lambdaReducerArms ∧
    selects .constant one = true ∧ argValue [] one = some (.con (.integer 1)) := by
  refine ⟨by decide, rfl, rfl⟩

/-- why an application must NOT be substituted: evaluated zero times instead of once, a failing
argument stops failing -/
theorem substituting_a_failing_arg_changes_outcome (sem : Sem) :
    Spec.run sem (denotation sem) 20 (.app (.lam (nm "x") one) .error) = .fail ∧
    Spec.run sem (denotation sem) 20 one = .done one :=
  ⟨rfl, rfl⟩

end Contextual


/-! ## `cast_data_reducer`: the GENERATED pair table -/
section CastPairs
open Gen.Optimiser

/-- the sound direction: `cast_data_cancel` for the integer and the byte-string pair; for the list
pair `dataItems_ok` says that a list whose items all unwrap is the image of its items under `.data`;
no theorem here evaluates the list or the map pair -/
def unwrapAfterWrap : List (Builtin × Builtin) :=
  [(.unIData, .iData), (.unBData, .bData), (.unListData, .listData), (.unMapData, .mapData)]
/-- wrap after unwrap: not the identity on ill-typed input (`wrap_after_unwrap_not_identity`) -/
def wrapAfterUnwrap : List (Builtin × Builtin) :=
  [(.iData, .unIData), (.bData, .unBData), (.listData, .unListData), (.mapData, .unMapData)]

/-- every pair `outer (inner x) ↦ x` of the generated table is a wrap/unwrap pair of the SAME kind,
in one of the two directions; a new pair (say `(UnIData, BData)`, or anything with `constrData`)
does not get past this -/
theorem cast_pairs_classified :
    ∀ p ∈ castCancelPairs, p ∈ unwrapAfterWrap ∨ p ∈ wrapAfterUnwrap := by decide

theorem dataItems_ok : ∀ (cs : List Const) (ds : List Data), dataItems cs = .ok ds → cs = ds.map .data := by
  intro cs
  induction cs with
  | nil => intro _ h; cases h; rfl
  | cons c rest ih =>
    intro ds h
    cases c with
    | data d =>
      replace h : (dataItems rest).bind (fun r => .ok (d :: r)) = .ok ds := h
      cases hr : dataItems rest with
      | ok r =>
        rw [hr] at h
        cases h
        exact congrArg (Const.data d :: ·) (ih r hr)
      | _ => rw [hr] at h; cases h
    | _ => cases h

end CastPairs

end AikenVerif.C02
