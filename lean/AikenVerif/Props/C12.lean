import AikenVerif.Lemmas.SchemaMain
import AikenVerif.Lemmas.SchemaFuel
import AikenVerif.Lemmas.SchemaPublish
import AikenVerif.Lemmas.SchemaEncode
/-!
# C12 — Blueprint schemas describe exactly what validators accept

Models: `AikenVerif/Model/Schema.lean`.  `conformsFixed` is `Parameter::validate` of `/repo`, which
holds the `fix:` commit 59371bb (the change of proposed_fixes/C12-fields-length.diff); `conforms` is
the code before it (`panic!("fields length different")` is the outcome `panic`); `inh`/`inhabits` is what the compiled
`expect _: T = d` accepts; `publish` is the blueprint generator.

All statements quantify over every declaration table, every (closed or open) type, every table
and every `Data`; the only hypotheses are that the table is the generator's output
(`publish … = some tbl`, decidable by evaluation) or the explicit invariant `Faithful`.
-/
namespace AikenVerif.C12
open AikenVerif AikenVerif.Blueprint

/-- On a faithful definitions table, validating `d` against the schema registered for `t`
is *the same function* as the compiled `expect _: t = d` — same outcome, for every `d`. -/
theorem conforms_eq_expect {decls : Decls} {tbl : Table} (hF : Faithful decls tbl)
    {t : ATy} {s : Schema} (hdef : tbl.get t = some s) (d : Data) :
    conformsFixed tbl (.ref t) d = inh decls (dsize d + 1) t d := by
  obtain ⟨ds, hres⟩ := hF.resolves hdef
  unfold Resolves at hres
  simp only [conformsFixed, validate, resolveS, hres, vSchema]
  exact vData_eq_inh hF _ t ds d hres

/-- C12, first half: a data value conforms to the published schema iff `expect` accepts it. -/
theorem conforms_iff_inhabits {decls : Decls} {tbl : Table} (hF : Faithful decls tbl)
    {t : ATy} {s : Schema} (hdef : tbl.get t = some s) (d : Data) :
    conformsFixed tbl (.ref t) d = .ok ↔ inhabits decls t d = true := by
  rw [conforms_eq_expect hF hdef d]
  simp [inhabits]

/-- the generator's output is faithful and defines every interface type -/
theorem publish_faithful {decls : Decls} {fuel : Nat} {params : List ATy} {tbl : Table}
    (h : publish decls fuel params = some tbl) :
    Faithful decls tbl ∧ ∀ p ∈ params, ∃ s, tbl.get p = some s := by
  unfold publish at h
  split at h
  · cases h
  · rename_i raw hc
    cases h
    have ci : CInv decls params params [] := ⟨nofun, nofun, fun p hp => .inr hp⟩
    have pi := prune_inv raw.length (PInv.of_CInv (collect_inv hc ci))
    exact ⟨Faithful.of_PInv pi, fun p hp => (pi.roots p hp).elim fun _ h => replaceAll_get_of_mem h⟩

/-- C12 for the blueprint actually generated: for every interface type `t` of a validator
(parameter, datum, redeemer) and every `d`, the published schema accepts `d` iff `expect` does.
Hypothesis: the generator returned a table (no unsupported type, enough fuel). -/
theorem published_conforms_iff_inhabits {decls : Decls} {fuel : Nat} {params : List ATy}
    {tbl : Table} (h : publish decls fuel params = some tbl) {t : ATy} (ht : t ∈ params) (d : Data) :
    conformsFixed tbl (.ref t) d = .ok ↔ inhabits decls t d = true := by
  obtain ⟨hF, hroots⟩ := publish_faithful h
  obtain ⟨s, hs⟩ := hroots t ht
  exact conforms_iff_inhabits hF hs d

/-- validation ends within `dsize d + 2` steps of fuel — for EVERY table and schema,
faithful or hand-written, before and after 59371bb (`validate` uses exactly that much) -/
theorem conforms_terminates (fixed : Bool) (tbl : Table) (p : Decl Schema) (d : Data) :
    validate fixed tbl p d ≠ .outOfFuel :=
  validate_ne (o := .outOfFuel) nofun nofun nofun (by cases fixed <;> nofun) tbl p d

/-- `expect` as modelled ends within `dsize d + 1` fuel on a faithful table -/
theorem inhabits_terminates {decls : Decls} {tbl : Table} (hF : Faithful decls tbl)
    {t : ATy} {s : Schema} (hdef : tbl.get t = some s) (d : Data) :
    inh decls (dsize d + 1) t d ≠ .outOfFuel := by
  rw [← conforms_eq_expect hF hdef d]
  exact conforms_terminates true tbl _ d

/-- `Parameter::validate` of `/repo` never panics, whatever the blueprint says -/
theorem conformsFixed_never_panics (tbl : Table) (p : Decl Schema) (d : Data) :
    conformsFixed tbl p d ≠ .panic := validate_no_panic tbl p d

/-- the code before 59371bb panicked: right constructor index, wrong number of fields
(the input found on the real code: `Foo = A{x: Int, y: ByteArray} | B`, `Constr 0 [I 1]`) -/
theorem conforms_panics :
    ∃ (tbl : Table) (p : Decl Schema) (d : Data), conforms tbl p d = .panic :=
  ⟨[(.adt 0 .nil, .data (.anyOf [(0, [.inline .integer, .inline .bytes]), (1, [])]))],
   .ref (.adt 0 .nil), .constr 0 [.int 1], by decide⟩

/-- C12, second half (expect side): every typed value, serialised, is accepted by the compiled
`expect` at its type.  `encode … = some d` says "`v` has type `t` and `d` is its serialisation";
`TagsDistinct` is the type checker's rule that constructor indices do not overlap (decidable).
Acceptance is at the same fuel the encoder used (`.ok` at any fuel is acceptance). -/
theorem encode_inhabits {decls : Decls} (hw : TagsDistinct decls) (fuel : Nat) (t : ATy) (v : Val)
    (d : Data) (h : encode decls fuel t v = some d) : inh decls fuel t d = .ok :=
  encode_inh hw fuel t v d h

/-- C12, second half (schema side): … and validates against the published schema.
`_partial`: stated for the validator run with the encoder's fuel, not for `conformsFixed`'s
canonical `dsize d + 2` (the fuel-monotonicity lemma that bridges the two is not proved). -/
theorem encode_conforms_partial {decls : Decls} {tbl : Table} (hF : Faithful decls tbl)
    (hw : TagsDistinct decls) {t : ATy} {ds : DSchema} (hdef : tbl.get t = some (.data ds))
    (fuel : Nat) (v : Val) (d : Data) (h : encode decls fuel t v = some d) :
    vData true tbl fuel ds d = .ok := by
  rw [vData_eq_inh hF fuel t ds d hdef]
  exact encode_inh hw fuel t v d h

/-- constructor index ↔ CBOR tag: what `Data::constr` writes, `unConstrData` reads back,
for every index (compact 121..127, 1280..1400, and the general form from 128 on) -/
theorem tag_index_agree (ix : Nat) :
    indexOfTag (constrTag ix).1 (constrTag ix).2 = some ix := by
  unfold constrTag
  split
  · simp only [indexOfTag]
    rw [if_pos (by omega), Nat.add_sub_cancel_left]
  · split
    · simp only [indexOfTag]
      rw [if_neg (by omega), if_pos (by omega)]
      congr 1; omega
    · rfl

theorem constrTag_injective (i j : Nat) (h : constrTag i = constrTag j) : i = j := by
  have hi := tag_index_agree i
  have hj := tag_index_agree j
  rw [h] at hi
  rw [hi] at hj
  exact Option.some.inj hj

example : constrTag 6 = (127, none) ∧ constrTag 7 = (1280, none) ∧
    constrTag 127 = (1400, none) ∧ constrTag 128 = (102, some 128) := by decide

/-- `pub type Two<a> { Two(a, a) }`, `@tag(5) pub type Rec { r: Int }`,
`pub type L { Nil  Cons(Int, L) }` -/
def exDecls : Decls :=
  [ ⟨1, [⟨none, [.var 0, .var 0]⟩], false⟩,
    ⟨0, [⟨some 5, [.int]⟩], false⟩,
    ⟨0, [⟨none, []⟩, ⟨none, [.int, .adt 2 .nil]⟩], false⟩ ]

def twoTwoInt : ATy := .adt 0 (.cons (.adt 0 (.cons .int .nil)) .nil)
def exParams : List ATy :=
  [twoTwoInt, .adt 1 .nil, .adt 2 .nil, .list (.pair .int .bytes), .option (.tuple (.cons .bool (.cons .data .nil)))]

/-- the hypotheses of `published_conforms_iff_inhabits` hold on a non-trivial interface
(nested generic instantiation, explicit tag, recursion, map, option of tuple), and both
directions of the equivalence are exercised -/
example : ∃ tbl, publish exDecls 64 exParams = some tbl ∧
    conformsFixed tbl (.ref twoTwoInt)
      (.constr 0 [.constr 0 [.int 1, .int 2], .constr 0 [.int 3, .int 4]]) = .ok ∧
    conformsFixed tbl (.ref twoTwoInt) (.constr 0 [.constr 0 [.int 1, .int 2], .int 3]) = .mismatch ∧
    conformsFixed tbl (.ref (.adt 1 .nil)) (.constr 5 [.int 1]) = .ok ∧
    conformsFixed tbl (.ref (.adt 1 .nil)) (.constr 0 [.int 1]) = .mismatch ∧
    conformsFixed tbl (.ref (.adt 2 .nil)) (.constr 1 [.int 1, .constr 1 [.int 2, .constr 0 []]]) = .ok ∧
    conformsFixed tbl (.ref (.list (.pair .int .bytes))) (.map [(.int 1, .bytes [])]) = .ok ∧
    conformsFixed tbl (.ref (.list (.pair .int .bytes))) (.list [.list [.int 1, .bytes []]]) = .mismatch := by
  refine ⟨_, rfl, ?_⟩
  decide +kernel

/-- `TagsDistinct` holds of the example declarations, and a value of a recursive, tagged and
generic type is encoded and accepted -/
example : TagsDistinct exDecls ∧
    encode exDecls 8 (.adt 2 .nil) (.con 1 [.int 1, .con 1 [.int 2, .con 0 []]]) =
      some (.constr 1 [.int 1, .constr 1 [.int 2, .constr 0 []]]) ∧
    encode exDecls 8 (.adt 1 .nil) (.con 0 [.int 9]) = some (.constr 5 [.int 9]) := by
  refine ⟨by decide, rfl, rfl⟩

end AikenVerif.C12
