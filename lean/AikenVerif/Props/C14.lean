import AikenVerif.Lemmas.MiniTrace
import AikenVerif.Gen.Tracing
/-!
# C14 — trace settings never change what a program decides

Level: translation validation (harness `c14-tracing`: every generated module under the 9 real
settings) + the theorems below on the SOURCE semantics `Mini.evalSrc`, whose trace mode is
`Tracing::trace_level(false)`:

* `trace_erasure_partial`: if every trace label and trace argument of the program is a literal
  (`LabelsTotal`, decidable), the outcome — value or abort — is the same under all modes.
  `_partial`: the hypothesis is needed (`trace_label_can_decide`, `trace_argument_can_decide`:
  the type checker drops the label under `Silent` and the arguments under `Compact`, so a label
  that fails decides the outcome; this is how the type checker is meant to work), and the statement is about the
  source semantics, not about the compiler.
  Variants: `trace_erasure_any_fuel` (two fuels), `trace_erasure_call` (an entry function).
* `tracing_table`: the generated table of `Tracing::trace_level(is_code_gen)`; `tracing_level_or_silent`;
  `settings_agree_partial`: the erasure theorem under the 9 real settings.
-/
namespace AikenVerif.C14
open AikenVerif AikenVerif.Mini

/-- every trace label / argument of the expression and of all function bodies is a literal -/
def LabelsTotal (P : Mini.Program) (e : Expr) : Prop := P.labelsTotal = true ∧ labelsTotal e = true

instance (P : Mini.Program) (e : Expr) : Decidable (LabelsTotal P e) := by
  unfold LabelsTotal; exact inferInstance

/-- **C14 on the source semantics**: with total labels the outcome does not depend on the trace mode
(at equal fuel, unless one of the two runs is cut off by the fuel). -/
theorem trace_erasure_partial (P : Mini.Program) (e : Expr) (h : LabelsTotal P e) (m m' : Mode)
    (fuel : Nat) (env : Env)
    (hm : result (evalSrc P m fuel env e) ≠ .outOfFuel) (hm' : result (evalSrc P m' fuel env e) ≠ .outOfFuel) :
    result (evalSrc P m fuel env e) = result (evalSrc P m' fuel env e) :=
  (erasure_step P h.1 m m' fuel).1 env e h.2 hm hm'

/-- the same for any two fuels at which the two runs finish -/
theorem trace_erasure_any_fuel (P : Mini.Program) (e : Expr) (h : LabelsTotal P e) (m m' : Mode)
    (n n' : Nat) (env : Env)
    (hm : result (evalSrc P m n env e) ≠ .outOfFuel) (hm' : result (evalSrc P m' n' env e) ≠ .outOfFuel) :
    result (evalSrc P m n env e) = result (evalSrc P m' n' env e) := by
  have h1 : evalSrc P m n env e = evalSrc P m (n + n') env e := eval_mono P m n n' env e hm
  have h2 : evalSrc P m' n' env e = evalSrc P m' (n + n') env e :=
    Nat.add_comm n' n ▸ eval_mono P m' n' n env e hm'
  rw [h1] at hm ⊢
  rw [h2] at hm' ⊢
  exact trace_erasure_partial P e h m m' (n + n') env hm hm'

/-- calling an entry function: same outcome under every mode -/
theorem trace_erasure_call (P : Mini.Program) (hP : P.labelsTotal = true) (m m' : Mode) (fuel f : Nat) (args : List Val)
    (hm : result (runCall P m fuel f args) ≠ .outOfFuel) (hm' : result (runCall P m' fuel f args) ≠ .outOfFuel) :
    result (runCall P m fuel f args) = result (runCall P m' fuel f args) := by
  unfold runCall at *
  split
  · rename_i xs body hf
    split
    · rename_i env henv
      simp only [hf, henv] at hm hm'
      exact trace_erasure_partial P body ⟨hP, fns_labelsTotal P hP f xs body hf⟩ m m' fuel env hm hm'
    · rfl
  · rfl

/-- a program with a trace whose label may fail -/
def witnessLabel : Expr := .trace (.fail false) [] (.lit (.int 1))
/-- a program with a trace whose ARGUMENT may fail (kept under `Verbose` only) -/
def witnessArg : Expr := .trace (.lit (.str "label")) [.fail false] (.lit (.int 1))
def emptyProgram : Mini.Program := ⟨[], [], []⟩

/-- the hypothesis is necessary: the label is evaluated under `Verbose`/`Compact` and dropped under
`Silent` (`tipo/expr.rs::infer_trace` returns `Ok(then)`), so a failing label decides the outcome -/
theorem trace_label_can_decide :
    result (evalSrc emptyProgram .verbose 3 [] witnessLabel) = .abort ∧
    result (evalSrc emptyProgram .compact 3 [] witnessLabel) = .abort ∧
    result (evalSrc emptyProgram .silent 3 [] witnessLabel) = .val (.int 1) ∧
    ¬ LabelsTotal emptyProgram witnessLabel :=
  ⟨rfl, rfl, rfl, by decide⟩

/-- under `Compact` only the label is kept: a failing trace argument separates `Verbose` from `Compact` -/
theorem trace_argument_can_decide :
    result (evalSrc emptyProgram .verbose 3 [] witnessArg) = .abort ∧
    result (evalSrc emptyProgram .compact 3 [] witnessArg) = .val (.int 1) ∧
    result (evalSrc emptyProgram .silent 3 [] witnessArg) = .val (.int 1) ∧
    ¬ LabelsTotal emptyProgram witnessArg :=
  ⟨rfl, rfl, rfl, by decide⟩

/-- non-vacuity: a recursive program with traces, total labels, evaluated under two modes -/
def sumTo : Mini.Program :=
  ⟨[], [([0], .ite (.bin .le (.var 0) (.lit (.int 0))) (.lit (.int 0))
            (.trace (.lit (.str "step")) [.lit (.int 7)]
              (.bin .add (.var 0) (.call 0 [.bin .sub (.var 0) (.lit (.int 1))]))))], []⟩

example : LabelsTotal sumTo (.call 0 [.lit (.int 3)]) := by decide
example : result (evalSrc sumTo .verbose 30 [] (.call 0 [.lit (.int 3)])) = .val (.int 6) := rfl
example : result (evalSrc sumTo .silent 30 [] (.call 0 [.lit (.int 3)])) = .val (.int 6) := rfl
example : (evalSrc sumTo .verbose 30 [] (.call 0 [.lit (.int 3)])).2.length = 3 := rfl
example : (evalSrc sumTo .silent 30 [] (.call 0 [.lit (.int 3)])).2.length = 0 := rfl

open Gen.Tracing in
/-- `Tracing::trace_level(is_code_gen)` over the 3 scopes × 3 levels × 2 contexts (GENERATED from
`ast.rs`): `All` applies the level everywhere, `UserDefined` silences compiler-generated traces,
`CompilerGenerated` silences user traces — and nothing else -/
theorem tracing_table (l : Level) :
    traceLevel .all l true = l ∧ traceLevel .all l false = l ∧
    traceLevel .userDefined l true = .silent ∧ traceLevel .userDefined l false = l ∧
    traceLevel .compilerGenerated l true = l ∧ traceLevel .compilerGenerated l false = .silent := by
  cases l <;> decide

open Gen.Tracing in
/-- whatever the setting, the level in force is the requested one or `silent` -/
theorem tracing_level_or_silent (s : Scope) (l : Level) (codeGen : Bool) :
    traceLevel s l codeGen = l ∨ traceLevel s l codeGen = .silent := by
  cases s <;> cases l <;> cases codeGen <;> decide

/-- the source trace mode a setting selects -/
def sourceMode (s : Gen.Tracing.Scope) (l : Gen.Tracing.Level) : Mode :=
  match Gen.Tracing.traceLevel s l false with
  | .silent => .silent
  | .compact => .compact
  | .verbose => .verbose

/-- **C14 for the source semantics under the real settings**: for a program with total labels, any two
of the 9 (scope, level) settings give the same outcome -/
theorem settings_agree_partial (P : Mini.Program) (e : Expr) (h : LabelsTotal P e)
    (s s' : Gen.Tracing.Scope) (l l' : Gen.Tracing.Level) (fuel : Nat) (env : Env)
    (hm : result (evalSrc P (sourceMode s l) fuel env e) ≠ .outOfFuel)
    (hm' : result (evalSrc P (sourceMode s' l') fuel env e) ≠ .outOfFuel) :
    result (evalSrc P (sourceMode s l) fuel env e) = result (evalSrc P (sourceMode s' l') fuel env e) :=
  trace_erasure_partial P e h _ _ fuel env hm hm'

end AikenVerif.C14
