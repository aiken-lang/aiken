import AikenVerif.Lemmas.CekNoPanic
import AikenVerif.Lemmas.CostNonneg
import AikenVerif.Lemmas.FlatWt
/-!
# C10 — evaluation never crashes: property theorems (evaluator part)

Every Rust operation of `machine.rs`, `runtime.rs`, `cost_model.rs`, `value.rs`, `discharge.rs`
that can panic (`unwrap`, indexing, `usize` conversion, `len - idx`, `unreachable!()`) is an explicit
`panic` outcome of the impl model.  The theorems say that outcome is unreachable.

Hypothesis `Term.wt t`: list/pair CONSTANTS carry items of their declared type — what the flat
decoder and the text parser construct by decoding items by the declared type (checked on the real
decoders by the correspondence `c10-eval`).  Nothing is assumed about the term otherwise: it may be
open, ill-typed, over- or under-apply builtins, use any integer size.
-/
namespace AikenVerif.C10
open Gen

/-- the generated costing table is coherent: every index is below the arity, no `unwrap()`, every
size/literal/list-length measure is backed by the fallible statement that establishes it -/
theorem cost_table_coherent : ∀ b : Builtin, costTableOK b = true := costTable_ok

/-- costing a saturated builtin never panics, whatever the arguments -/
theorem cost_no_panic (cm : CostModel) (sem : Sem) (b : Builtin) (args : List Value)
    (hl : args.length = b.arity) : builtinCost cm sem b args ≠ .panic :=
  builtinCost_np cm sem b args hl

/-- a saturated builtin applied to well-typed arguments, after its costing guards passed, never panics -/
theorem builtin_no_panic (sem : Sem) (b : Builtin) (args : List Value) (hl : args.length = b.arity)
    (hw : Value.wtList args = true) (hpre : runPre b args (costSpec b).pre = .ok ()) :
    callBuiltin sem b args ≠ .panic :=
  callBuiltin_np sem b args hl hw hpre

theorem builtin_preserves_typing (sem : Sem) (b : Builtin) (args : List Value) (v : Value)
    (hl : args.length = b.arity) (hw : Value.wtList args = true) (h : callBuiltin sem b args = .ok v) :
    v.wt = true :=
  callBuiltin_wt sem b args v hl hw h

/-- one transition never panics and keeps constants well-typed -/
theorem step_no_panic (cfg : Config) (a : Acct) (s : State) (hwt : s.wt = true) (ha : AcctWF a) :
    step cfg a s ≠ .panic ∧ ∀ a' s', step cfg a s = .next a' s' → s'.wt = true := by
  have := step_safe cfg a s hwt ha
  constructor
  · intro h; rw [h] at this; exact this
  · intro a' s' h; rw [h] at this; exact this

theorem runFrom_no_panic (cfg : Config) : ∀ (fuel : Nat) (a : Acct) (s : State),
    s.wf = true → s.wt = true → AcctWF a → runFrom cfg fuel a s ≠ .panic := by
  intro fuel
  induction fuel with
  | zero => intro a s _ _ _ h; cases h
  | succ n ih =>
    intro a s hwf hwt ha
    -- `s.wf` is needed only because `step_good` is where `AcctWF` of the next account comes from
    have hg := step_good cfg a s hwf ha
    have hs := step_safe cfg a s hwt ha
    rw [runFrom]
    generalize step cfg a s = r at hg hs ⊢
    cases r with
    | next a' s' => exact ih a' s' hg.2.1 hs hg.2.2
    | panic => exact hs.elim
    | _ => intro h; cases h

/-- **C10 (evaluator)**: evaluating ANY term whose constants are well-typed — open, ill-typed,
with arbitrarily large integers — under any budget, slippage, cost model and semantics variant never
panics: the run ends with a term, an evaluation error, budget exhaustion, or (model only) an
unmodelled cryptographic builtin. -/
theorem cek_no_panic (cfg : Config) (fuel : Nat) (budget : ExBudget) (t : NTerm) (ht : Term.wt t = true) :
    run cfg fuel budget t ≠ .panic := by
  rcases run_cases cfg fuel budget t with h | ⟨h, _⟩ | ⟨c, _, _, h⟩
  · rw [h]; intro h; cases h
  · rw [h]; intro h; cases h
  · rw [h]
    exact runFrom_no_panic cfg fuel _ (.compute [] [] t) (by simp [State.wf, Value.wfList])
      (by simp [State.wt, Value.wtList, ht]) rfl

theorem runFrom_terminates (cfg : Config) (hp : PosCosts cfg.costs cfg.sem) (a : Acct) (s : State)
    (hl : a.counts.length = 10) : ∃ fuel, runFrom cfg fuel a s ≠ .outOfFuel :=
  runFrom_halts cfg hp a s hl

/-- **C10 (termination)**: under ANY finite budget — and any slippage, semantics variant, term (open,
ill-typed, any size) — the run halts: some number of machine steps is enough.  Hypothesis: every
machine step is priced at one CPU unit or more and no builtin has a negative price (`PosCosts`; the
step half is the decidable `stepsPositive`, answered by the driver for the cost models of the real
evaluator).  The measure is at the head of `Lemmas/CekTerminates`. -/
theorem cek_terminates (cfg : Config) (hp : PosCosts cfg.costs cfg.sem) (budget : ExBudget) (t : NTerm) :
    ∃ fuel, run cfg fuel budget t ≠ .outOfFuel := by
  obtain ⟨fuel, hf⟩ := runFrom_terminates cfg hp ⟨budget.sub (stepCostOf cfg.costs .startUp), initCounts⟩
    (.compute [] [] t) rfl
  refine ⟨fuel, ?_⟩
  rcases run_cases cfg fuel budget t with h | ⟨h, _⟩ | ⟨c, hc, _, h⟩
  · rw [h]; intro h; cases h
  · rw [h]; intro h; cases h
  · rwa [h, ← show stepCostOf cfg.costs .startUp = c by rw [stepCostOf, hc]; rfl]

/-- **C10 (evaluator), both halves**: evaluation of any term with well-typed constants under a finite
budget ENDS, and ends with a term, an evaluation error or budget exhaustion (or, model only, at an
unmodelled cryptographic builtin) — never a panic, never an endless run. -/
theorem cek_total (cfg : Config) (hp : PosCosts cfg.costs cfg.sem) (budget : ExBudget) (t : NTerm)
    (ht : Term.wt t = true) :
    ∃ fuel, (∃ a r, run cfg fuel budget t = .done a r) ∨ run cfg fuel budget t = .fail ∨
      run cfg fuel budget t = .oob ∨ run cfg fuel budget t = .unmodelled := by
  obtain ⟨fuel, hf⟩ := cek_terminates cfg hp budget t
  have hp' := cek_no_panic cfg fuel budget t ht
  refine ⟨fuel, ?_⟩
  cases h : run cfg fuel budget t with
  | done a r => exact Or.inl ⟨a, r, rfl⟩
  | fail => exact Or.inr (Or.inl rfl)
  | oob => exact Or.inr (Or.inr (Or.inl rfl))
  | unmodelled => exact Or.inr (Or.inr (Or.inr rfl))
  | panic => exact absurd h hp'
  | outOfFuel => exact absurd h hf

/-- `PosCosts` follows from two DECIDABLE checks on a concrete cost model — every step priced ≥ 1 cpu
(`stepsPositive`) and no costing function with a negative coefficient or floor (`builtinsNonneg`;
all size measures are non-negative, `measures_nonneg`).  The driver evaluates both on the cost models
the real evaluator runs with (`costpos`), so for those the termination theorem holds outright: -/
theorem cek_terminates_checked (cfg : Config) (h1 : stepsPositive cfg.costs = true)
    (h2 : builtinsNonneg cfg.costs = true) (budget : ExBudget) (t : NTerm) :
    ∃ fuel, run cfg fuel budget t ≠ .outOfFuel :=
  cek_terminates cfg (posCosts_of_checks cfg.costs cfg.sem h1 h2) budget t

/-- the step half of `PosCosts` is decidable on a concrete cost model -/
theorem posCosts_of_check (cm : CostModel) (sem : Sem) (h : stepsPositive cm = true)
    (hb : ∀ b args c, builtinCost cm sem b args = .ok c → ExBudget.le .zero c) : PosCosts cm sem :=
  posCosts_of cm sem h hb

/-- non-vacuity: a cost model with the ledger's step prices passes the check, one with a free step
does not; and the divergent term `(λx. x x) (λx. x x)` — which needs unbounded fuel without a
budget — is stopped by budget exhaustion -/
example :
    let cm : CostModel := ⟨[("startup", ⟨100, 100⟩), ("constant", ⟨100, 16000⟩), ("apply", ⟨100, 16000⟩),
      ("lambda", ⟨100, 16000⟩), ("var", ⟨100, 16000⟩), ("delay", ⟨100, 16000⟩), ("force", ⟨100, 16000⟩),
      ("builtin", ⟨100, 16000⟩), ("constr", ⟨100, 16000⟩), ("case", ⟨100, 16000⟩)], []⟩
    let cm0 : CostModel := ⟨[("startup", ⟨100, 100⟩), ("constant", ⟨100, 16000⟩), ("apply", ⟨100, 0⟩),
      ("lambda", ⟨100, 16000⟩), ("var", ⟨100, 16000⟩), ("delay", ⟨100, 16000⟩), ("force", ⟨100, 16000⟩),
      ("builtin", ⟨100, 16000⟩), ("constr", ⟨100, 16000⟩), ("case", ⟨100, 16000⟩)], []⟩
    let w : NTerm := .lam ⟨"x", 0⟩ (.app (.var ⟨"x", 1⟩) (.var ⟨"x", 1⟩))
    stepsPositive cm = true ∧ stepsPositive cm0 = false ∧
    run ⟨cm, .E, 5⟩ 40 ⟨1000, 100000⟩ (.app w w) = .oob := by
  exact ⟨rfl, rfl, rfl⟩

/-- **C10, "decoded from untrusted bytes"**: whatever bytes are given, if the flat decoder (model of
`flat.rs`, either the unchanged or the repaired pallas reading mode) returns a program, then that
program meets the hypothesis of the theorems above (`fromFlat_wt`: list items are decoded BY the
declared element type) — so its evaluation under any finite budget ends with a term, an evaluation
error or budget exhaustion; it neither panics nor runs forever. -/
theorem decoded_program_never_crashes (cfg : Config) (h1 : stepsPositive cfg.costs = true)
    (h2 : builtinsNonneg cfg.costs = true) (cd : Flat.DataCodec) (m : Flat.Mode) (bytes : Bytes)
    (p : Program NamedDeBruijn) (hdec : Flat.fromFlat cd m bytes = .ok p) (budget : ExBudget) :
    ∃ fuel, (∃ a r, run cfg fuel budget p.term = .done a r) ∨ run cfg fuel budget p.term = .fail ∨
      run cfg fuel budget p.term = .oob ∨ run cfg fuel budget p.term = .unmodelled :=
  cek_total cfg (posCosts_of_checks cfg.costs cfg.sem h1 h2) budget p.term (Flat.fromFlat_wt cd m bytes p hdec)

/-- reading back the final value is a total function (no fuel, no failure case) -/
theorem discharge_total (v : Value) : ∃ t, valueAsTerm v = t := ⟨_, rfl⟩

/-- non-vacuity: an OPEN, ill-typed term with a huge integer and an over-applied builtin satisfies the
hypothesis, and a term with an ill-typed list constant does not -/
example :
    Term.wt (.app (.app (.app (.builtin .sliceByteString) (.const (.integer (2 ^ 200)))) (.var ⟨"free", 7⟩))
      (.const (.list .integer [.integer 1, .integer 2]))) = true ∧
    Term.wt (.const (.list .integer [.bytestring []])) = false := by
  constructor <;> rfl

end AikenVerif.C10
