import AikenVerif.Model.ErrorClass
import AikenVerif.Lemmas.MiniTypes
/-!
# C06 — well-typed programs cannot go wrong

Level: translation validation.  What is machine-checked here:

* `classify_total`: every variant of the GENERATED `machine::Error` enum is classified as exactly
  one of structural | requested | budget (a variant added to `machine/error.rs` makes
  `Model/ErrorClass.lean` fail to compile, so it cannot go unclassified); the harness
  (`c06-classify`) has no table of its own — it asks `driver errclass`.
* `structural_variants`: the exact list of variants C06 forbids.
* on the source semantics: the failures a program can ASK for are exactly the `abort` outcomes;
  `stuck` (ill-typed) never comes out of `fail` / `todo` / a failed `expect` / a partial operator
  applied to values of the right type (`requested_failures_abort`).

* `well_typed_never_stuck_partial` / `well_typed_call_never_stuck_partial`: TYPE SOUNDNESS of the
  source semantics for the first-order fragment (literals, `let`, `if`, `&&`/`||`, strict operators,
  tuples, lists, user data types with field access, `Data` up- and down-casts, recursive top-level
  functions, `fail`/`todo`, `expect` and `when` over constructor / list / tuple / literal patterns,
  `trace`, `?`), for every fuel, tracing mode and well-typed arguments.  `_partial`: closures /
  higher-order application are outside the typed fragment.

Not proved: type soundness of the real checker and code generator for all programs (that part is the
per-program validation of `c06-classify`).
-/
namespace AikenVerif.C06
open AikenVerif AikenVerif.Gen

theorem classify_total (e : MachineError) :
    classify e = .structural ∨ classify e = .requested ∨ classify e = .budget := by
  cases classify e <;> simp

/-- `MachineError.all` lists every variant, so a filter over it (`structural_variants`) is exhaustive -/
theorem all_complete (e : MachineError) : e ∈ MachineError.all := by
  -- `all` lists the variants in declaration order
  have h : MachineError.all[e.ctorIdx]? = some e := by cases e <;> decide
  exact List.mem_of_getElem? h

/-- exactly these variants are structural -/
theorem structural_variants :
    MachineError.all.filter (fun e => classify e == .structural) =
      [.invalidStepKind, .openTermEvaluated, .nonPolymorphicInstantiation, .nonFunctionalApplication,
       .nonConstrScrutinized, .missingCaseBranch, .typeMismatch, .listTypeMismatch, .pairTypeMismatch,
       .unexpectedBuiltinTermArgument, .builtinTermArgumentExpected, .notAConstant,
       .machineNeverReachedDone] := by decide

/-- budget exhaustion is the only `budget` variant -/
theorem budget_variants :
    MachineError.all.filter (fun e => classify e == .budget) = [.outOfExError] := by decide

/-- the names the anchors of C06 list as forbidden are structural, the allowed ones are not -/
example : classify .typeMismatch = .structural ∧ classify .nonFunctionalApplication = .structural ∧
    classify .nonPolymorphicInstantiation = .structural ∧ classify .openTermEvaluated = .structural ∧
    classify .missingCaseBranch = .structural ∧ classify .notAConstant = .structural ∧
    classify .evaluationFailure = .requested ∧ classify .divideByZero = .requested ∧
    classify .emptyList = .requested ∧ classify .outOfExError = .budget := by decide

open Mini in
/-- on the source semantics, what a program asks for is an `abort`, never `stuck`:
`fail` / `todo`, division / modulo by zero, indexing a byte array at a negative position, a failed
`expect` -/
theorem requested_failures_abort (P : Mini.Program) (m : Mode) (n : Nat) (env : Env) :
    (∀ t, result (evalSrc P m (n + 1) env (.fail t)) = .abort) ∧
    (∀ a : Int, binOp .div (.int a) (.int 0) = .abort ∧ binOp .mod (.int a) (.int 0) = .abort) ∧
    (∀ (b : Bytes) (i : Int), i < 0 → binOp .index (.bytes b) (.int i) = .abort) ∧
    (∀ (p : Pat) (v : Val) (a b : Expr), matchPat p v = none →
      eval P m n env a = ret v → result (evalSrc P m (n + 1) env (.expect p a b)) = .abort) := by
  refine ⟨fun t => rfl, fun a => ⟨rfl, rfl⟩, fun b i hi => if_neg (Int.not_le.mpr hi), fun p v a b hp he => ?_⟩
  show (bind (eval P m n env a) _).1 = _
  rw [he, ret, bind_val, hp]
  rfl

open Mini in
/-- **type soundness, first-order fragment**: never `stuck`; a value has the expression's type -/
theorem well_typed_never_stuck_partial (S : Sig) (P : Mini.Program) (hP : ProgTy S P) (m : Mode) (fuel : Nat)
    (Γ : Ctx) (env : Env) (e : Expr) (t : MTy) (h : HasTy P.adts S Γ e t) (henv : envOk P.adts Γ env) :
    result (evalSrc P m fuel env e) ≠ .stuck ∧
    ∀ v, result (evalSrc P m fuel env e) = .val v → valTy P.adts v t = true := by
  have hs := (sound_step S P m hP fuel).1 Γ env e t h henv
  unfold result evalSrc
  generalize (eval P m fuel env e).1 = o at hs
  cases o with
  | val v => exact ⟨nofun, fun w hw => by cases hw; exact hs⟩
  | stuck => exact hs.elim
  | _ => exact ⟨nofun, nofun⟩

open Mini in
/-- the same at a validator / test entry point: calling a function of the signature table on
arguments of the declared types -/
theorem well_typed_call_never_stuck_partial (S : Sig) (P : Mini.Program) (hP : ProgTy S P) (m : Mode)
    (fuel : Nat) (f : Nat) (argtys : List MTy) (r : MTy) (args : List Val)
    (hsig : S[f]? = some (argtys, r)) (hargs : zipTy P.adts args argtys = true) :
    result (runCall P m fuel f args) ≠ .stuck ∧
    ∀ v, result (runCall P m fuel f args) = .val v → valTy P.adts v r = true := by
  obtain ⟨xs, body, hf, hlen, hbody⟩ := hP f argtys r hsig
  obtain ⟨env, hbp, hok⟩ := bindParams_ok xs args argtys hlen hargs
  simp only [runCall, hf, hbp]
  exact well_typed_never_stuck_partial S P hP m fuel _ env body r hbody hok

namespace Example
open Mini
/-- `fn sum(xs: List<Int>) -> Int { when xs is { [] -> 0  [h, ..t] -> h + sum(t) } }` and
`fn fact(n: Int) -> Int { if n <= 0 { 1 } else { n * fact(n - 1) } }` -/
def sumBody : Expr :=
  .when (.var 0) [(.nil, .lit (.int 0)),
                  (.cons (.var 1) (.var 2), .bin .add (.var 1) (.call 0 [.var 2]))]
def factBody : Expr :=
  .ite (.bin .le (.var 0) (.lit (.int 0))) (.lit (.int 1))
    (.bin .mul (.var 0) (.call 1 [.bin .sub (.var 0) (.lit (.int 1))]))
/-- `type Shape { Circle(Int)  Rect(Int, Int) }` and
`fn area(s: Shape) -> Int { when s is { Circle(r) -> r * r  Rect(w, h) -> w * h } }` -/
def areaBody : Expr :=
  .when (.var 0) [(.con 0 [.var 1], .bin .mul (.var 1) (.var 1)),
                  (.con 1 [.var 1, .var 2], .bin .mul (.var 1) (.var 2))]
/-- `fn cast(x: Int) -> Int { let d: Data = x  expect y: Int = d  y }` -/
def castBody : Expr := .un (.fromData .int) (.un .toData (.var 0))
def adts : Adts := [[[.int], [.int, .int]]]
def prog : Mini.Program :=
  { adts := adts, fns := [([0], sumBody), ([0], factBody), ([0], areaBody), ([0], castBody)], lams := [] }
def sig : Sig := [([.list .int], .int), ([.int], .int), ([.adt 0], .int), ([.int], .int)]

theorem when_typed {A : Adts} {S : Sig} {Γ : Ctx} {s : Expr} {cs : List (Pat × Expr)} {ts t : MTy}
    (hs : HasTy A S Γ s ts)
    (hcl : ∀ c ∈ cs, ∃ Γp, patCtx A c.1 ts = some Γp ∧ HasTy A S (Γp ++ Γ) c.2 t)
    (hex : ∀ v, valTy A v ts = true → firstMatch v cs ≠ none) : HasTy A S Γ (.when s cs) t := by
  refine .when _ _ _ ts _ hs (fun c hc => ?_) (fun c hc Γp hp => ?_) hex
  · obtain ⟨Γp, h, _⟩ := hcl c hc
    exact h ▸ rfl
  · obtain ⟨Γp', h, hb⟩ := hcl c hc
    cases h.symm.trans hp
    exact hb

theorem sum_typed : HasTy adts sig [(0, .list .int)] sumBody .int := by
  refine when_typed (.var _ _ _ rfl) ?_ ?_
  · refine List.forall_mem_cons.mpr ⟨⟨_, rfl, .lit_int _ _⟩, List.forall_mem_cons.mpr ⟨⟨_, rfl, ?_⟩, nofun⟩⟩
    exact .bin _ _ _ _ .int .int _ (.var _ _ _ rfl)
      (.call _ 0 _ [.list .int] _ rfl (.cons _ _ _ _ _ (.var _ _ _ rfl) (.nil _))) .add
  · intro v hv
    obtain ⟨vs, rfl, _⟩ := valTy_list hv
    cases vs <;> exact Option.some_ne_none _

theorem fact_typed : HasTy adts sig [(0, .int)] factBody .int :=
  .ite _ _ _ _ _ (.bin _ _ _ _ .int .int _ (.var _ _ _ rfl) (.lit_int _ _) .le) (.lit_int _ _)
    (.bin _ _ _ _ .int .int _ (.var _ _ _ rfl)
      (.call _ 1 _ [.int] _ rfl
        (.cons _ _ _ _ _ (.bin _ _ _ _ .int .int _ (.var _ _ _ rfl) (.lit_int _ _) .sub) (.nil _))) .mul)

theorem area_typed : HasTy adts sig [(0, .adt 0)] areaBody .int := by
  refine when_typed (.var _ _ _ rfl) ?_ ?_
  · exact List.forall_mem_cons.mpr
      ⟨⟨_, rfl, .bin _ _ _ _ .int .int _ (.var _ _ _ rfl) (.var _ _ _ rfl) .mul⟩,
       List.forall_mem_cons.mpr
        ⟨⟨_, rfl, .bin _ _ _ _ .int .int _ (.var _ _ _ rfl) (.var _ _ _ rfl) .mul⟩, nofun⟩⟩
  · intro v hv
    obtain ⟨tag, vs, ctors, tys, rfl, h1, h2, hz⟩ := valTy_adt hv
    cases h1
    -- the tag selects the field types, their number the shape of `vs`; no other combination is typed
    match tag, tys, vs, h2, zipTy_length _ _ hz with
    | 0, _, [x], rfl, _ => exact Option.some_ne_none _
    | 1, _, [x, y], rfl, _ => exact Option.some_ne_none _

/-- the premises of the soundness theorem are satisfiable by a recursive program with a `when` -/
theorem prog_typed : ProgTy sig prog := by
  intro f argtys r h
  match f, h with
  | 0, h => cases h; exact ⟨_, _, rfl, rfl, sum_typed⟩
  | 1, h => cases h; exact ⟨_, _, rfl, rfl, fact_typed⟩
  | 2, h => cases h; exact ⟨_, _, rfl, rfl, area_typed⟩
  | 3, h =>
    cases h
    exact ⟨_, _, rfl, rfl, .un _ _ _ .data _ (.un _ _ _ .int _ (.var _ _ _ rfl) (.toData _)) (.fromData _)⟩
  | n + 4, h => cases h

/-- … and the conclusion is not about an empty set of runs: `sum([1, 2, 3]) = 6`, `fact(5) = 120` -/
example : result (runCall prog .verbose 20 0 [.list [.int 1, .int 2, .int 3]]) = .val (.int 6) := by rfl
example : result (runCall prog .verbose 20 1 [.int 5]) = .val (.int 120) := by rfl
example : result (runCall prog .verbose 20 2 [.con 1 [.int 3, .int 4]]) = .val (.int 12) := by rfl
example : result (runCall prog .verbose 20 3 [.int 7]) = .val (.int 7) := by rfl
end Example

end AikenVerif.C06
