import AikenVerif.Model.Iso
/-!
# C17 — parallel test runs are isolated and schedule-independent

Over the interleaving model of `Model/Iso.lean`: all interleavings of non-atomic read/write
micro-steps, any number of workers, by induction over the execution with the potential `finish`
(the memory reached by finishing everything sequentially from here).  The premise of disjoint
address sets is what the executable audit `isoCheck` decides (`driver iso` runs it on the address
sets measured on the real heap by the `run_runnables` hook).
-/
namespace AikenVerif.C17
open AikenVerif.Iso

theorem update_same (m : Mem) (a : Addr) (v : Nat) : update m a v a = v := by simp [update]

theorem update_other (m : Mem) (a b : Addr) (v : Nat) (h : b ≠ a) : update m a v b = m b := by
  simp [update, h]

theorem update_comm (m : Mem) (a b : Addr) (x y : Nat) (h : a ≠ b) :
    update (update m a x) b y = update (update m b y) a x := by
  funext z
  simp only [update]
  by_cases hza : z = a
  · simp [hza, h]
  · simp [hza]

theorem stepSeq_comm (m : Mem) (o₁ o₂ : Op) (h : o₁.addr ≠ o₂.addr) :
    stepSeq (stepSeq m o₁) o₂ = stepSeq (stepSeq m o₂) o₁ := by
  unfold stepSeq
  rw [update_other m o₁.addr o₂.addr _ (Ne.symm h), update_other m o₂.addr o₁.addr _ h]
  exact update_comm m o₁.addr o₂.addr _ _ h

theorem runSeq_hoist (o : Op) (post : List Op) (pre : List Op) (m : Mem)
    (h : ∀ p ∈ pre, p.addr ≠ o.addr) :
    runSeq m (pre ++ o :: post) = runSeq (stepSeq m o) (pre ++ post) := by
  induction pre generalizing m with
  | nil => rfl
  | cons p ps ih =>
    have ⟨hp, hps⟩ := List.forall_mem_cons.mp h
    show runSeq (stepSeq m p) (ps ++ o :: post) = runSeq (stepSeq (stepSeq m o) p) (ps ++ post)
    rw [ih _ hps, stepSeq_comm m p o hp]

theorem forall_mem_middle {α : Type} {P : α → Prop} {pre post : List α} {w : α} :
    (∀ x ∈ pre ++ w :: post, P x) ↔ P w ∧ ∀ x ∈ pre ++ post, P x := by
  rw [List.forall_mem_append, List.forall_mem_cons, List.forall_mem_append]
  exact and_left_comm

/-- `Disjoint` is symmetric, so the worker in the middle may be taken out first -/
theorem disjoint_middle {pre post : List Worker} {w : Worker} :
    Disjoint (pre ++ w :: post) ↔
      (∀ y ∈ pre ++ post, ∀ a, a ∈ w.addrs → a ∈ y.addrs → False) ∧ Disjoint (pre ++ post) :=
  (List.perm_middle.pairwise_iff fun h a ha hb => h a hb ha).trans List.pairwise_cons

/-- a value held in a worker's register is what memory holds at the address of its next operation -/
def Fresh (m : Mem) (w : Worker) : Prop :=
  ∀ v, w.reg = some v → ∃ o rest, w.ops = o :: rest ∧ v = m o.addr

theorem Fresh.update {m : Mem} {w : Worker} (h : Fresh m w) {a : Addr} (ha : a ∉ w.addrs) (x : Nat) :
    Fresh (update m a x) w := by
  intro v hv
  obtain ⟨o, rest, hops, rfl⟩ := h v hv
  refine ⟨o, rest, hops, (update_other m a _ x fun heq => ha ?_).symm⟩
  simp [Worker.addrs, hops, ← heq]

-- `finish c` is the memory reached by running what is left of every worker in sequence; a step of any
-- worker leaves it unchanged (`step_preserves`), which is why every interleaving ends in `runSeq` of all.
def remaining (ws : List Worker) : List Op := ws.flatMap (·.ops)

def finish (c : Config) : Mem := runSeq c.mem (remaining c.workers)

theorem remaining_middle (pre post : List Worker) (w : Worker) :
    remaining (pre ++ w :: post) = remaining pre ++ (w.ops ++ remaining post) := by
  simp [remaining]

theorem addr_mem_of_mem_remaining {ws : List Worker} {o : Op} (h : o ∈ remaining ws) :
    ∃ w ∈ ws, o.addr ∈ w.addrs := by
  obtain ⟨w, hw, ho⟩ := List.mem_flatMap.mp h
  exact ⟨w, hw, List.mem_map_of_mem ho⟩

-- what makes a step commute with the other workers: they touch other addresses, and no register is stale
structure Inv (c : Config) : Prop where
  disjoint : Disjoint c.workers
  fresh : RegsFresh c

theorem step_preserves (c c' : Config) (hs : Step c c') (hinv : Inv c) :
    Inv c' ∧ finish c' = finish c := by
  obtain ⟨m, m', pre, post, w, w', hw⟩ := hs
  obtain ⟨hdis, hfresh⟩ := hinv
  obtain ⟨hw_others, hothers⟩ := disjoint_middle.mp hdis
  obtain ⟨hw_fresh, hothers_fresh⟩ : Fresh m w ∧ ∀ y ∈ pre ++ post, Fresh m y := forall_mem_middle.mp hfresh
  cases hw with
  | read o rest =>
    -- memory, addresses and pending operations are unchanged; the new register is up to date
    exact ⟨⟨disjoint_middle.mpr ⟨hw_others, hothers⟩,
      forall_mem_middle.mpr ⟨fun v hv => ⟨o, rest, rfl, (Option.some.inj hv).symm⟩, hothers_fresh⟩⟩,
      by simp only [finish, remaining_middle]⟩
  | write v o rest =>
    -- what is written back was computed from the value still in memory
    obtain ⟨_, _, hops, rfl⟩ := hw_fresh v rfl
    cases hops
    have hothers_addr : ∀ y ∈ pre ++ post, o.addr ∉ y.addrs :=
      fun y hy => hw_others y hy o.addr (List.mem_cons_self ..)
    refine ⟨⟨disjoint_middle.mpr ⟨fun y hy a ha => hw_others y hy a (List.mem_cons_of_mem _ ha), hothers⟩,
      forall_mem_middle.mpr ⟨nofun, fun y hy => (hothers_fresh y hy).update (hothers_addr y hy) _⟩⟩, ?_⟩
    -- the write is the sequential step of `o`, hoisted over the workers in front
    simp only [finish, remaining_middle]
    refine (runSeq_hoist o _ (remaining pre) m fun p hp heq => ?_).symm
    obtain ⟨y, hy, hpy⟩ := addr_mem_of_mem_remaining hp
    exact hothers_addr y (List.mem_append_left _ hy) (heq ▸ hpy)

theorem steps_preserve (c c' : Config) (hs : Steps c c') (hinv : Inv c) :
    Inv c' ∧ finish c' = finish c := by
  induction hs with
  | refl => exact ⟨hinv, rfl⟩
  | tail c₁ c₂ _ hstep ih =>
    obtain ⟨hi', hf'⟩ := step_preserves c₁ c₂ hstep ih.1
    exact ⟨hi', hf'.trans ih.2⟩

theorem initial_inv (m : Mem) (ws : List (List Op))
    (hdis : ws.Pairwise (fun o₁ o₂ => ∀ a, a ∈ o₁.map Op.addr → a ∈ o₂.map Op.addr → False)) :
    Inv (initial m ws) := by
  constructor
  · exact List.pairwise_map.mpr hdis
  · intro w hw v hv
    obtain ⟨ops, _, rfl⟩ := List.mem_map.mp hw
    cases hv

/-- **C17, core.**  Workers whose address sets are pairwise disjoint: every complete interleaving
— any schedule, any number of workers — ends in the memory of the sequential run. -/
theorem disjoint_schedule_independent (m : Mem) (ws : List (List Op))
    (hdis : ws.Pairwise (fun o₁ o₂ => ∀ a, a ∈ o₁.map Op.addr → a ∈ o₂.map Op.addr → False))
    (c : Config) (hreach : Steps (initial m ws) c) (hdone : c.allDone) :
    c.mem = runSeq m ws.flatten := by
  have hend : finish c = c.mem := by
    rw [finish, remaining, List.flatMap_eq_nil_iff.mpr hdone]
    rfl
  have hstart : finish (initial m ws) = runSeq m ws.flatten := by
    rw [finish, initial, remaining, List.flatMap_map]
    exact congrArg _ List.flatMap_id'
  rw [← hend, (steps_preserve _ _ hreach (initial_inv m ws hdis)).2, hstart]

/-- along every interleaving of disjoint workers a pending read is never stale:
the value a test holds in its register is the value still in memory -/
theorem no_stale_read (m : Mem) (ws : List (List Op))
    (hdis : ws.Pairwise (fun o₁ o₂ => ∀ a, a ∈ o₁.map Op.addr → a ∈ o₂.map Op.addr → False))
    (c : Config) (hreach : Steps (initial m ws) c) : RegsFresh c :=
  (steps_preserve _ _ hreach (initial_inv m ws hdis)).1.fresh

theorem both_read_then_write (m : Mem) (o₁ o₂ : Op) :
    ∃ c, Steps (initial m [[o₁], [o₂]]) c ∧ c.allDone
      ∧ c.mem = update (update m o₁.addr (o₁.apply (m o₁.addr))) o₂.addr (o₂.apply (m o₂.addr)) := by
  have r₁ := Step.mk m m [] [⟨none, [o₂]⟩] _ _ (WStep.read m o₁ [])
  have r₂ := Step.mk m m [⟨some (m o₁.addr), [o₁]⟩] [] _ _ (WStep.read m o₂ [])
  have w₁ := Step.mk m _ [] [⟨some (m o₂.addr), [o₂]⟩] _ _ (WStep.write m (m o₁.addr) o₁ [])
  have w₂ := Step.mk _ _ [⟨none, []⟩] [] _ _ (WStep.write (update m o₁.addr (o₁.apply (m o₁.addr))) (m o₂.addr) o₂ [])
  refine ⟨_, Steps.tail _ _ _ (Steps.tail _ _ _ (Steps.tail _ _ _ (Steps.tail _ _ _ (Steps.refl _) r₁) r₂) w₁) w₂, ?_, rfl⟩
  exact List.forall_mem_cons.mpr ⟨rfl, List.forall_mem_cons.mpr ⟨rfl, nofun⟩⟩

/-! non-vacuity: two workers on different allocations, one complete interleaved
execution (read₁ read₂ write₁ write₂), and the theorem applies to it -/
example :
    let ws : List (List Op) := [[Op.inc 1], [Op.dec 2]]
    let m : Mem := fun _ => 5
    ∃ c, Steps (initial m ws) c ∧ c.allDone ∧ c.mem 1 = 6 ∧ c.mem 2 = 4 := by
  obtain ⟨c, hsteps, hdone, hmem⟩ := both_read_then_write (fun _ => 5) (Op.inc 1) (Op.dec 2)
  exact ⟨c, hsteps, hdone, congrFun hmem 1, congrFun hmem 2⟩

example : ([[Op.inc 1], [Op.dec 2]] : List (List Op)).Pairwise
    (fun o₁ o₂ => ∀ a, a ∈ o₁.map Op.addr → a ∈ o₂.map Op.addr → False) := by
  refine .cons (fun o₂ ho₂ a h₁ h₂ => ?_) (.cons nofun .nil)
  -- the only address of the first worker is 1, of the second 2
  cases List.mem_singleton.mp ho₂
  cases List.mem_singleton.mp h₁
  cases List.mem_singleton.mp h₂

/-- **Lost update**: the premise is necessary.  Two workers on the *same* allocation (count ≥ 2: it
has two holders): read₁ read₂ write₁ write₂ is a complete execution whose final count differs from
the sequential one. -/
theorem shared_can_corrupt (m : Mem) (a : Addr) (o₁ o₂ : Op)
    (h₁ : o₁.addr = a) (h₂ : o₂.addr = a) (hm : 2 ≤ m a) :
    ∃ c, Steps (initial m [[o₁], [o₂]]) c ∧ c.allDone
      ∧ c.mem a ≠ runSeq m ([[o₁], [o₂]].flatten) a := by
  obtain ⟨c, hsteps, hdone, hmem⟩ := both_read_then_write m o₁ o₂
  refine ⟨c, hsteps, hdone, ?_⟩
  -- the second write stores `o₂` of the count both have read; sequentially `o₂` sees what `o₁` wrote
  have hseq : runSeq m [o₁, o₂] a = o₂.apply (o₁.apply (m a)) := by
    simp only [runSeq, List.foldl_cons, List.foldl_nil, stepSeq, h₁, h₂, update_same]
  rw [hmem, h₁, h₂, update_same]
  show _ ≠ runSeq m [o₁, o₂] a
  obtain ⟨k, hk⟩ := Nat.exists_eq_add_of_le' hm
  rw [hseq, hk]
  cases o₁ <;> cases o₂ <;> simp [Op.apply]

/-- the lost update on a clone/drop pair frees too early: count 2, one test
clones while the other drops; sequentially the count stays 2, the bad
interleaving leaves 1 — the next drop frees an allocation that still has two holders -/
example : ∃ c, Steps (initial (fun _ => 2) [[Op.inc 7], [Op.dec 7]]) c ∧ c.allDone
    ∧ c.mem 7 ≠ runSeq (fun _ => 2) [Op.inc 7, Op.dec 7] 7 :=
  shared_can_corrupt (fun _ => 2) 7 (Op.inc 7) (Op.dec 7) rfl rfl (Nat.le_refl 2)

theorem writeSlot_length {α β : Type} (f : α → β) (tests : List α) (res : List (Option β)) (i : Nat) :
    (writeSlot f tests res i).length = res.length := by
  unfold writeSlot
  split <;> simp

theorem writeSlot_get {α β : Type} (f : α → β) (tests : List α) (res : List (Option β))
    (hlen : res.length = tests.length) (j i : Nat) :
    (writeSlot f tests res j)[i]? = if i = j then (tests[i]?).map (fun t => some (f t)) else res[i]? := by
  unfold writeSlot
  by_cases hij : i = j
  · subst hij
    rw [if_pos rfl]
    cases ht : tests[i]? with
    | none => exact List.getElem?_eq_none (hlen ▸ List.getElem?_eq_none_iff.mp ht)
    | some t => exact List.getElem?_set_self (hlen ▸ (List.getElem?_eq_some_iff.mp ht).1)
  · rw [if_neg hij]
    split
    · exact List.getElem?_set_ne (Ne.symm hij)
    · rfl

theorem foldl_writeSlot_get {α β : Type} (f : α → β) (tests : List α) (sched : List Nat)
    (res : List (Option β)) (hlen : res.length = tests.length) (i : Nat) :
    (sched.foldl (writeSlot f tests) res)[i]? =
      if i ∈ sched then (tests[i]?).map (fun t => some (f t)) else res[i]? := by
  induction sched generalizing res with
  | nil => rfl
  | cons j s ih =>
    rw [List.foldl_cons, ih _ ((writeSlot_length ..).trans hlen), writeSlot_get f tests res hlen]
    by_cases his : i ∈ s <;> simp [his]

/-- **Result order.**  An indexed parallel map: whatever the order `sched` in which the tasks
finish, the collected vector is the one a sequential map builds. -/
theorem indexed_collect_order {α β : Type} (f : α → β) (tests : List α) (sched : List Nat)
    (hall : ∀ i, i < tests.length → i ∈ sched) :
    collect f tests sched = tests.map (fun t => some (f t)) := by
  apply List.ext_getElem?
  intro i
  rw [collect, foldl_writeSlot_get f tests sched _ List.length_replicate i, List.getElem?_map]
  by_cases hi : i < tests.length
  · rw [if_pos (hall i hi)]
  · have hge : tests.length ≤ i := Nat.le_of_not_lt hi
    simp [hge]

/-- three tasks finishing in the order 2, 0, 1 (and 2 once more) -/
example : collect (fun n : Nat => n * 10) [1, 2, 3] [2, 0, 1, 2] = [some 10, some 20, some 30] := by
  decide

theorem strictSorted_pairwise : ∀ l : List Nat, strictSorted l = true → l.Pairwise (· < ·)
  | [], _ => .nil
  | [_], _ => List.pairwise_singleton ..
  | a :: b :: rest, h => by
    simp only [strictSorted, Bool.and_eq_true, decide_eq_true_eq] at h
    have ih := strictSorted_pairwise (b :: rest) h.2
    refine .cons (fun x hx => ?_) ih
    rcases List.mem_cons.mp hx with rfl | hx
    · exact h.1
    · exact Nat.lt_trans h.1 (List.rel_of_pairwise_cons ih hx)

/-- what a `true` answer of the audit means -/
theorem audit_sound (ts : List TestHeap) (h : isoCheck ts = true) :
    ts.Pairwise (fun t₁ t₂ => ∀ a, a ∈ t₁.addrs → a ∈ t₂.addrs → False)
    ∧ ∀ t ∈ ts, ∀ al ∈ t, al.strong = al.refs := by
  simp only [isoCheck, Bool.and_eq_true] at h
  obtain ⟨hd, hs⟩ := h
  constructor
  · -- sorted strictly, hence without repetition; sorting permutes; no repetition across tests
    have hsorted : ((ts.flatMap TestHeap.addrs).mergeSort fun a b => a ≤ b).Nodup :=
      (strictSorted_pairwise _ hd).imp Nat.ne_of_lt
    have hnodup : (ts.flatMap TestHeap.addrs).Nodup := (List.mergeSort_perm _ _).nodup_iff.mp hsorted
    exact (List.pairwise_flatMap.mp hnodup).2.imp fun h a ha hb => h a ha a hb rfl
  · intro t ht al hal
    exact beq_iff_eq.mp (List.all_eq_true.mp (List.all_eq_true.mp hs t ht) al hal)

/-- the audit rejects a shared allocation (two tests holding address 10) and
an allocation with a holder outside the test (strong 2, one reference found) -/
example : isoCheck [[⟨10, 2, 1⟩, ⟨11, 1, 1⟩], [⟨10, 2, 1⟩]] = false := by
  apply Bool.eq_false_iff.mpr
  intro h
  have hp := (audit_sound _ h).1
  rw [List.pairwise_cons] at hp
  exact hp.1 [⟨10, 2, 1⟩] (by simp) 10 (by simp [TestHeap.addrs]) (by simp [TestHeap.addrs])
example : isoCheck [[⟨10, 2, 1⟩], [⟨12, 1, 1⟩]] = false := by
  apply Bool.eq_false_iff.mpr
  intro h
  have := (audit_sound _ h).2 [⟨10, 2, 1⟩] (by simp) ⟨10, 2, 1⟩ (by simp)
  simp at this
example : isoCheck [[⟨10, 2, 2⟩, ⟨11, 1, 1⟩], [⟨12, 1, 1⟩], []] = true := by
  -- the addresses, in the order met, are already sorted
  have hs : ([10, 11, 12] : List Nat).mergeSort (fun a b => a ≤ b) = [10, 11, 12] :=
    List.mergeSort_of_pairwise (by decide)
  rw [isoCheck, allDistinct,
    show List.flatMap TestHeap.addrs [[⟨10, 2, 2⟩, ⟨11, 1, 1⟩], [⟨12, 1, 1⟩], []] = [10, 11, 12] from rfl, hs]
  rfl

theorem forall2_exists_right {α β : Type} {R : α → β → Prop} {ts : List α} {ws : List β}
    (h : Forall2 R ts ws) {w : β} (hw : w ∈ ws) : ∃ t ∈ ts, R t w := by
  induction h with
  | nil => cases hw
  | cons hr _ ih =>
    rcases List.mem_cons.mp hw with rfl | hmem
    · exact ⟨_, List.mem_cons_self .., hr⟩
    · obtain ⟨t, ht, h⟩ := ih hmem
      exact ⟨t, List.mem_cons_of_mem _ ht, h⟩

theorem forall2_pairwise {α β : Type} {R : α → β → Prop} {P : α → α → Prop} {Q : β → β → Prop}
    (hpq : ∀ t₁ t₂ w₁ w₂, R t₁ w₁ → R t₂ w₂ → P t₁ t₂ → Q w₁ w₂) (ts : List α) (ws : List β)
    (hf : Forall2 R ts ws) (hp : ts.Pairwise P) : ws.Pairwise Q := by
  induction hf with
  | nil => exact .nil
  | cons hr hrest ih =>
    rw [List.pairwise_cons] at hp ⊢
    refine ⟨fun w₂ hw₂ => ?_, ih hp.2⟩
    obtain ⟨t₂, ht₂, hr₂⟩ := forall2_exists_right hrest hw₂
    exact hpq _ _ _ _ hr hr₂ (hp.1 t₂ ht₂)

/-- **C17, tied to the audit.**  If the audit accepts the measured heaps `ts`
and worker `i` only touches allocations the walk found in test `i`, then every
complete interleaving ends in the sequential memory. -/
theorem audited_tests_schedule_independent (ts : List TestHeap) (ws : List (List Op))
    (haudit : isoCheck ts = true)
    (hown : Forall2 (fun (t : TestHeap) (ops : List Op) => ∀ o ∈ ops, o.addr ∈ t.addrs) ts ws)
    (m : Mem) (c : Config) (hreach : Steps (initial m ws) c) (hdone : c.allDone) :
    c.mem = runSeq m ws.flatten := by
  apply disjoint_schedule_independent m ws _ c hreach hdone
  refine forall2_pairwise ?_ ts ws hown (audit_sound ts haudit).1
  intro t₁ t₂ w₁ w₂ h₁ h₂ hp a ha hb
  obtain ⟨o₁, ho₁, rfl⟩ := List.mem_map.mp ha
  obtain ⟨o₂, ho₂, heq⟩ := List.mem_map.mp hb
  exact hp o₁.addr (h₁ o₁ ho₁) (heq ▸ h₂ o₂ ho₂)

example : Forall2 (fun (t : TestHeap) (ops : List Op) => ∀ o ∈ ops, o.addr ∈ t.addrs)
    [[⟨10, 2, 2⟩, ⟨11, 1, 1⟩], [⟨12, 1, 1⟩]] [[Op.inc 10, Op.dec 11, Op.dec 10], [Op.dec 12]] := by
  refine Forall2.cons ?_ (Forall2.cons ?_ Forall2.nil) <;>
    simp [TestHeap.addrs, Op.addr]

/-- **Self-containment.**  The strong count of an allocation is the number of its holders; if as
many are found inside the test, nothing outside it (another test, the constant cache, a module's
AST) can clone or drop that allocation. -/
theorem no_outside_holder {H : Type} (holders : List H) (inside : H → Bool) (strong refs : Nat)
    (hstrong : strong = holders.length) (hrefs : refs = holders.countP inside)
    (heq : strong = refs) : ∀ h ∈ holders, inside h = true :=
  List.countP_eq_length.mp (by rw [← hrefs, ← heq, hstrong])

example : ∀ h ∈ [1, 2, 3], (fun n : Nat => decide (n < 5)) h = true :=
  no_outside_holder [1, 2, 3] (fun n => decide (n < 5)) 3 3 rfl (by decide) rfl

end AikenVerif.C17
