import AikenVerif.Props.C10  -- nothing below uses it: `./check C04` audits `C10.builtin_no_panic` through this module
import AikenVerif.Lemmas.ExpMod
import AikenVerif.Lemmas.Bits
import AikenVerif.Lemmas.BuiltinCall
import AikenVerif.Lemmas.BytesNat
import AikenVerif.Lemmas.BytesLex
import AikenVerif.Lemmas.Utf8
/-!
# C04 — builtins compute their specified function on their whole domain: property theorems

`callBuiltin` is the impl model of `DefaultFunction::call` (tied to the Rust by the correspondences
`c04-builtin`, `c03-cek`, `c10-eval`).  The theorems below state, for all arguments they quantify over, that it
is the function of the Plutus builtin specification: the mathematical characterisation of the result (sign
conventions, rounding, padding/truncation, index origin, variant-dependent range checks), its exact failure
conditions, and the inverse laws between constructors and destructors.  Not every modelled builtin has a theorem
here (none for `equalsString`, `fstPair`/`sndPair`, `chooseList`, `chooseData`, `mkPairData`, `mkNilData`,
`mkNilPairData`, `replicateByte`, `serialiseData`); `shiftByteString` is characterised at 0 and from the bit
length on, `findFirstSetBit` by when it answers -1 and the range of its other answers.
-/
namespace AikenVerif.C04
open AikenVerif Gen

abbrev I (n : Int) : Value := .con (.integer n)
abbrev BS (b : Bytes) : Value := .con (.bytestring b)
abbrev D (d : Data) : Value := .con (.data d)

theorem add_sub_mul_spec (sem : Sem) (a b : Int) :
    callBuiltin sem .addInteger [I a, I b] = .ok (I (a + b)) ∧
    callBuiltin sem .subtractInteger [I a, I b] = .ok (I (a - b)) ∧
    callBuiltin sem .multiplyInteger [I a, I b] = .ok (I (a * b)) := by
  refine ⟨rfl, rfl, rfl⟩

theorem division_eqs (sem : Sem) (a b : Int) :
    callBuiltin sem .divideInteger [I a, I b] = (if b = 0 then .err else .ok (I (a.fdiv b))) ∧
    callBuiltin sem .modInteger [I a, I b] = (if b = 0 then .err else .ok (I (a.fmod b))) ∧
    callBuiltin sem .quotientInteger [I a, I b] = (if b = 0 then .err else .ok (I (a.tdiv b))) ∧
    callBuiltin sem .remainderInteger [I a, I b] = (if b = 0 then .err else .ok (I (a.tmod b))) :=
  ⟨callBuiltin_of_core_guard rfl, callBuiltin_of_core_guard rfl, callBuiltin_of_core_guard rfl,
    callBuiltin_of_core_guard rfl⟩

/-- the four division builtins fail exactly on a zero divisor -/
theorem division_fails_iff_zero (sem : Sem) (a b : Int) :
    (callBuiltin sem .divideInteger [I a, I b] = .err ↔ b = 0) ∧
    (callBuiltin sem .modInteger [I a, I b] = .err ↔ b = 0) ∧
    (callBuiltin sem .quotientInteger [I a, I b] = .err ↔ b = 0) ∧
    (callBuiltin sem .remainderInteger [I a, I b] = .err ↔ b = 0) := by
  obtain ⟨h1, h2, h3, h4⟩ := division_eqs sem a b
  rw [h1, h2, h3, h4]
  by_cases h : b = 0 <;> simp [h]

/-- `divideInteger`/`modInteger` are floor division: `a = b·q + r` with `r` between 0 and `b`
(sign of the DIVISOR) -/
theorem divide_mod_law (sem : Sem) (a b : Int) (hb : b ≠ 0) :
    ∃ q r, callBuiltin sem .divideInteger [I a, I b] = .ok (I q) ∧
           callBuiltin sem .modInteger [I a, I b] = .ok (I r) ∧
           a = b * q + r ∧ (0 < b → 0 ≤ r ∧ r < b) ∧ (b < 0 → b < r ∧ r ≤ 0) := by
  obtain ⟨h1, h2, -, -⟩ := division_eqs sem a b
  rw [h1, h2, if_neg hb, if_neg hb]
  exact ⟨_, _, rfl, rfl, (Int.mul_fdiv_add_fmod a b).symm,
    fun h => ⟨Int.fmod_nonneg_of_pos a h, Int.fmod_lt_of_pos a h⟩, fmod_neg_bounds a b⟩

/-- `quotientInteger`/`remainderInteger` truncate towards zero: `a = b·q + r`, `|r| < |b|`, and `r`
has the sign of the DIVIDEND -/
theorem quot_rem_law (sem : Sem) (a b : Int) (hb : b ≠ 0) :
    ∃ q r, callBuiltin sem .quotientInteger [I a, I b] = .ok (I q) ∧
           callBuiltin sem .remainderInteger [I a, I b] = .ok (I r) ∧
           a = b * q + r ∧ r.natAbs < b.natAbs ∧ (0 ≤ a → 0 ≤ r) ∧ (a ≤ 0 → r ≤ 0) := by
  obtain ⟨-, -, h3, h4⟩ := division_eqs sem a b
  rw [h3, h4, if_neg hb, if_neg hb]
  refine ⟨_, _, rfl, rfl, (Int.mul_tdiv_add_tmod a b).symm, ?_, Int.tmod_nonneg b, fun h => ?_⟩
  · rw [Int.natAbs_tmod]; exact Nat.mod_lt _ (Int.natAbs_pos.mpr hb)
  · have := Int.tmod_nonneg (a := -a) b (Int.neg_nonneg_of_nonpos h)
    rw [Int.neg_tmod] at this
    exact Int.nonpos_of_neg_nonneg this

theorem comparison_spec (sem : Sem) (a b : Int) :
    callBuiltin sem .equalsInteger [I a, I b] = .ok (.con (.bool (a == b))) ∧
    callBuiltin sem .lessThanInteger [I a, I b] = .ok (.con (.bool (decide (a < b)))) ∧
    callBuiltin sem .lessThanEqualsInteger [I a, I b] = .ok (.con (.bool (decide (a ≤ b)))) := by
  refine ⟨rfl, rfl, rfl⟩

/-- a wrong argument type is an evaluation failure, never a value, never a crash: three instances -/
theorem wrong_type_fails (sem : Sem) (x : Bytes) (b : Int) :
    callBuiltin sem .addInteger [BS x, I b] = .err ∧ callBuiltin sem .addInteger [I b, BS x] = .err ∧
    callBuiltin sem .lengthOfByteString [I b] = .err := by
  refine ⟨rfl, rfl, rfl⟩

/-- `consByteString`: semantics C/E reject integers outside 0..255, the others wrap modulo 256 -/
theorem cons_variant (sem : Sem) (n : Int) (bs : Bytes) :
    callBuiltin sem .consByteString [I n, BS bs] =
      (if sem = .C ∨ sem = .E then
        (if 0 ≤ n ∧ n ≤ 255 then .ok (BS (UInt8.ofNat n.toNat :: bs)) else .err)
       else .ok (BS (UInt8.ofNat (n.fmod 256).toNat :: bs))) := by
  have hr : (decide (n > 255) || decide (n < 0)) = true ↔ ¬ (0 ≤ n ∧ n ≤ 255) := by
    rw [Bool.or_eq_true, decide_eq_true_eq, decide_eq_true_eq]; omega
  cases sem with
  | A | B | D => exact callBuiltin_of_core_con rfl
  | C | E =>
    rw [callBuiltin_of_core_guard (p := (decide (n > 255) || decide (n < 0)) = true) rfl]
    by_cases h : 0 ≤ n ∧ n ≤ 255
    · rw [if_neg (mt hr.mp (not_not_intro h)), if_pos h]; rfl
    · rw [if_pos (hr.mpr h), if_neg h]; rfl

/-- `sliceByteString s k bs` = the bytes at positions `max s 0 ≤ i < max s 0 + max k 0`, with no size limit
on `s`, `k` -/
theorem slice_spec (sem : Sem) (s k : Int) (bs : Bytes) :
    callBuiltin sem .sliceByteString [I s, I k, BS bs] = .ok (BS ((bs.drop s.toNat).take k.toNat)) := rfl

theorem slice_length (s k : Int) (bs : Bytes) :
    ((bs.drop s.toNat).take k.toNat).length = min k.toNat (bs.length - s.toNat) := by
  simp [List.length_take, List.length_drop]

/-- `indexByteString` succeeds exactly inside the bounds and returns that byte -/
theorem index_spec (sem : Sem) (bs : Bytes) (i : Int) :
    callBuiltin sem .indexByteString [BS bs, I i] =
      (if h : 0 ≤ i ∧ i < bs.length then .ok (I (bs[i.toNat]'(by omega)).toNat) else .err) := by
  simp only [callBuiltin, callBuiltinCore, getArgB, List.getElem?_cons_zero, List.getElem?_cons_succ,
    Value.unwrapInteger, Value.unwrapByteString, bind, Res.bind, pure]
  by_cases h : 0 ≤ i ∧ i < bs.length
  · simp [h]
  · simp [h]

theorem length_append_spec (sem : Sem) (x y : Bytes) :
    callBuiltin sem .appendByteString [BS x, BS y] = .ok (BS (x ++ y)) ∧
    callBuiltin sem .lengthOfByteString [BS x] = .ok (I x.length) := ⟨rfl, rfl⟩

/-- bitwise and/or/xor: padding semantics keeps the longer length, truncation the shorter
(`zipBytes_comm`, `zipBytes_self`: `Lemmas/Bits.lean`) -/
theorem zipBytes_length (f : UInt8 → UInt8 → UInt8) (pad : Bool) (x y : Bytes) :
    (zipBytes f pad x y).length = if pad then max x.length y.length else min x.length y.length := by
  induction x generalizing y with
  | nil => cases y <;> cases pad <;> simp [zipBytes]
  | cons a as ih =>
    cases y with
    | nil => cases pad <;> simp [zipBytes]
    | cons b bs =>
      simp only [zipBytes, List.length_cons, ih]
      cases pad
      · exact (Nat.succ_min_succ ..).symm
      · exact (Nat.succ_max_succ ..).symm

theorem complement_involutive (sem : Sem) (x : Bytes) :
    ∃ y, callBuiltin sem .complementByteString [BS x] = .ok (BS y) ∧
         callBuiltin sem .complementByteString [BS y] = .ok (BS x) := by
  have h : (x.map (· ^^^ 255)).map (· ^^^ 255) = x := by
    rw [List.map_map]
    exact (List.map_congr_left fun b _ => by simp [UInt8.xor_assoc]).trans (List.map_id x)
  exact ⟨x.map (· ^^^ 255), rfl, congrArg (fun y => Res.ok (BS y)) h⟩

-- the converse, up to zero padding, is `Bytes'.ofNatLE_toNatBE_reverse` (`Lemmas/BytesNat.lean`)
theorem toNatBE_ofNatLE_reverse : ∀ n : Nat, Bytes'.toNatBE (Bytes'.ofNatLE n).reverse = n := by
  intro n
  induction n using Nat.strongRecOn with
  | _ n ih =>
    rw [Bytes'.ofNatLE]
    by_cases h : n = 0
    · simp [h, Bytes'.toNatBE]
    · simp only [h, dite_false, List.reverse_cons]
      rw [Bytes'.toNatBE_append, ih (n / 256) (Nat.div_lt_self (Nat.pos_of_ne_zero h) (by decide)), UInt8.toNat_ofNat',
        Nat.mod_mod_of_dvd _ (by decide : 256 ∣ 2 ^ 8)]
      exact Nat.div_add_mod n 256

/-- `integerToByteString` succeeds exactly when no guard fires, and then returns the little-endian digits
padded to the width -/
theorem i2bs_core_ok_iff (sem : Sem) (be : Bool) (w n : Int) (bs : Bytes) :
    callBuiltinCore sem .integerToByteString [.con (.bool be), I w, I n] = .ok (.con (.bytestring bs)) ↔
      (w = 0 → n.natAbs.log2 < 8 * 8192 ∨ n = 0) ∧ 0 ≤ n ∧ fitsU64 w = true ∧
        (w ≠ 0 → (Bytes'.ofNatLE n.toNat).length ≤ w.toNat) ∧ Bytes'.padded be w.toNat (Bytes'.ofNatLE n.toNat) = bs := by
  simp only [callBuiltinCore, getArgB, List.getElem?_cons_zero, List.getElem?_cons_succ,
    Value.unwrapBool, Value.unwrapInteger, bind, Res.bind, pure, ite_err_eq_ok, ite_panic_eq_ok]
  -- the three successful branches are one formula: `ofNatLE 0 = []`, and width 0 pads nothing
  by_cases h0 : n = 0
  · subst h0
    simp [Bytes'.ofNatLE_zero, Bytes'.padded_nil]
  · by_cases hw : w.toNat > 0
    · simp [h0, hw, ite_err_eq_ok, Bytes'.padded]
    · have hw0 : w.toNat = 0 := Nat.eq_zero_of_not_pos hw
      simp [h0, hw0, ite_err_eq_ok, Bytes'.padded_zero]

theorem i2bs_bs2i_core (sem : Sem) (be : Bool) (w n : Int) (bs : Bytes)
    (h : callBuiltinCore sem .integerToByteString [.con (.bool be), I w, I n] = .ok (.con (.bytestring bs))) :
    callBuiltinCore sem .byteStringToInteger [.con (.bool be), BS bs] = .ok (.con (.integer n)) := by
  obtain ⟨-, hn, -, -, rfl⟩ := (i2bs_core_ok_iff sem be w n bs).mp h
  -- here and below, `show` writes out the arm of `callBuiltinCore` for these arguments (holes where the proof does not
  -- look): the call unfolds to it definitionally, and the pattern has to follow that arm of the model
  show Res.ok (BOut.con (.integer (Bytes'.toNatBE (if be then _ else _)))) = _
  rw [Bytes'.toNatBE_padded, toNatBE_ofNatLE_reverse, Int.toNat_of_nonneg hn]

/-- `byteStringToInteger` inverts `integerToByteString`, whenever that conversion succeeds -/
theorem i2bs_bs2i (sem : Sem) (be : Bool) (w n : Int) (bs : Bytes)
    (h : callBuiltin sem .integerToByteString [.con (.bool be), I w, I n] = .ok (BS bs)) :
    callBuiltin sem .byteStringToInteger [.con (.bool be), BS bs] = .ok (I n) := by
  refine callBuiltin_of_core_con (i2bs_bs2i_core sem be w n bs (core_of_callBuiltin_con h ?_))
  simp only [List.mem_cons, List.not_mem_nil, or_false, Value.con.injEq, reduceCtorEq, not_false_eq_true]

/-- little-endian core of the inverse law: the digits of the number `le` denotes, padded to the length of `le` -/
theorem i2bs_of_digits (sem : Sem) (be : Bool) (le : Bytes) (hlen : le.length < 18446744073709551616) :
    callBuiltinCore sem .integerToByteString [.con (.bool be), I le.length, I (Bytes'.toNatBE le.reverse : Nat)]
      = .ok (.con (.bytestring (if be then le.reverse else le))) := by
  obtain ⟨k, hk⟩ := Bytes'.ofNatLE_toNatBE_reverse le
  have hl : le.length = (Bytes'.ofNatLE (Bytes'.toNatBE le.reverse)).length + k := by
    rw [← List.length_replicate (n := k) (a := (0 : UInt8)), ← List.length_append, hk]
  rw [i2bs_core_ok_iff, Int.toNat_natCast, Int.toNat_natCast]
  refine ⟨fun h => .inr ?_, Int.natCast_nonneg _, ?_, fun _ => hl ▸ Nat.le_add_right _ _, ?_⟩
  · have : le = [] := List.length_eq_zero_iff.mp (by omega)
    subst this
    rfl
  · simp only [fitsU64, Bool.and_eq_true, decide_eq_true_eq]
    omega
  · rw [Bytes'.padded, show le.length - _ = k by rw [hl, Nat.add_sub_cancel_left], hk]

/-- `integerToByteString` inverts `byteStringToInteger` when asked for the original width (a length a `Vec`
can have), leading / trailing zero bytes included -/
theorem bs2i_i2bs (sem : Sem) (be : Bool) (bs : Bytes) (hlen : bs.length < 18446744073709551616) :
    ∃ n : Int, callBuiltin sem .byteStringToInteger [.con (.bool be), BS bs] = .ok (I n) ∧
      callBuiltin sem .integerToByteString [.con (.bool be), I bs.length, I n] = .ok (BS bs) := by
  cases be
  · exact ⟨_, rfl, callBuiltin_of_core_con (i2bs_of_digits sem false bs hlen)⟩
  · -- big endian: the digit list is `bs.reverse`
    refine ⟨_, rfl, callBuiltin_of_core_con ?_⟩
    have := i2bs_of_digits sem true bs.reverse (by rwa [List.length_reverse])
    rwa [List.length_reverse, List.reverse_reverse] at this

/-- constructors and destructors of `data` are mutually inverse -/
theorem data_constructors_destructors (sem : Sem) (n : Int) (b : Bytes) (ds : List Data) (es : List (Data × Data)) :
    callBuiltin sem .unIData [D (.int n)] = .ok (I n) ∧
    callBuiltin sem .iData [I n] = .ok (D (.int n)) ∧
    callBuiltin sem .unBData [D (.bytes b)] = .ok (BS b) ∧
    callBuiltin sem .bData [BS b] = .ok (D (.bytes b)) ∧
    callBuiltin sem .unListData [D (.list ds)] = .ok (.con (.list .data (ds.map .data))) ∧
    callBuiltin sem .unMapData [D (.map es)] =
      .ok (.con (.list (.pair .data .data) (es.map fun (k, v) => .pair .data .data (.data k) (.data v)))) := by
  refine ⟨rfl, rfl, rfl, rfl, rfl, rfl⟩

theorem listData_unListData (sem : Sem) (ds : List Data) :
    callBuiltin sem .listData [.con (.list .data (ds.map .data))] = .ok (D (.list ds)) := by
  apply callBuiltin_of_core_con
  show (dataItems (ds.map Const.data)).bind _ = _
  rw [dataItems_map]
  rfl

theorem mapData_unMapData (sem : Sem) (es : List (Data × Data)) :
    callBuiltin sem .mapData
      [.con (.list (.pair .data .data) (es.map fun (k, v) => .pair .data .data (.data k) (.data v)))] =
      .ok (D (.map es)) := by
  apply callBuiltin_of_core_con
  show (pairItems (es.map _)).bind _ = _
  rw [pairItems_map]
  rfl

/-- `constrData` / `unConstrData` round trip for every representable constructor index -/
theorem constrData_unConstrData (sem : Sem) (tag : Nat) (ds : List Data) (h : tag < 2 ^ 64) :
    callBuiltin sem .constrData [I tag, .con (.list .data (ds.map .data))] = .ok (D (.constr tag ds)) ∧
    callBuiltin sem .unConstrData [D (.constr tag ds)] =
      .ok (.con (.pair .integer (.list .data) (.integer tag) (.list .data (ds.map .data)))) := by
  constructor
  · have hf : fitsU64 (tag : Int) = true := by simp [fitsU64]; omega
    apply callBuiltin_of_core_con
    show (dataItems (ds.map Const.data)).bind (fun l => if fitsU64 (tag : Int) = true then _ else _) = _
    rw [dataItems_map, hf]
    rfl
  · rfl

mutual
  theorem beq_refl (d : Data) : Data.beq d d = true := by
    cases d <;> simp only [Data.beq, beq_self_eq_true, Bool.and_self, beqList_refl, beqPairs_refl]
  theorem beqList_refl (ds : List Data) : Data.beqList ds ds = true := by
    cases ds <;> simp only [Data.beqList, Bool.and_self, beq_refl, beqList_refl]
  theorem beqPairs_refl (es : List (Data × Data)) : Data.beqPairs es es = true := by
    cases es <;> simp only [Data.beqPairs, Bool.and_self, beq_refl, beqPairs_refl]
end

mutual
  theorem eq_of_beq (a b : Data) (h : Data.beq a b = true) : a = b := by
    cases a <;> cases b <;> simp only [Data.beq, Bool.and_eq_true, beq_iff_eq, Bool.false_eq_true] at h
    · rw [h.1, eqList_of_beq _ _ h.2]
    · rw [eqPairs_of_beq _ _ h]
    · rw [eqList_of_beq _ _ h]
    · rw [h]
    · rw [h]
  theorem eqList_of_beq (xs ys : List Data) (h : Data.beqList xs ys = true) : xs = ys := by
    cases xs <;> cases ys <;> simp only [Data.beqList, Bool.and_eq_true, Bool.false_eq_true] at h
    · rfl
    · rw [eq_of_beq _ _ h.1, eqList_of_beq _ _ h.2]
  theorem eqPairs_of_beq (xs ys : List (Data × Data)) (h : Data.beqPairs xs ys = true) : xs = ys := by
    cases xs <;> cases ys <;> simp only [Data.beqPairs, Bool.and_eq_true, Bool.false_eq_true] at h
    · rfl
    · rw [Prod.ext (eq_of_beq _ _ h.1.1) (eq_of_beq _ _ h.1.2), eqPairs_of_beq _ _ h.2]
end

/-- `equalsData` is structural equality of the abstract data values (no encoding is visible):
it answers `true` exactly for equal values -/
theorem equalsData_is_structural (sem : Sem) (a b : Data) :
    ∃ r, callBuiltin sem .equalsData [D a, D b] = .ok (.con (.bool r)) ∧ (r = true ↔ a = b) := by
  refine ⟨Data.beq a b, rfl, ?_⟩
  constructor
  · exact eq_of_beq a b
  · intro h; subst h; exact beq_refl a

theorem list_builtins_spec (sem : Sem) (t : Ty) (x : Const) (xs : List Const) :
    callBuiltin sem .headList [.con (.list t (x :: xs))] = .ok (.con x) ∧
    callBuiltin sem .tailList [.con (.list t (x :: xs))] = .ok (.con (.list t xs)) ∧
    callBuiltin sem .headList [.con (.list t [])] = .err ∧
    callBuiltin sem .tailList [.con (.list t [])] = .err ∧
    callBuiltin sem .nullList [.con (.list t [])] = .ok (.con (.bool true)) ∧
    callBuiltin sem .nullList [.con (.list t (x :: xs))] = .ok (.con (.bool false)) := by
  refine ⟨rfl, rfl, rfl, rfl, rfl, rfl⟩

/-- `mkCons` accepts exactly an element of the list's element type -/
theorem mkCons_spec (sem : Sem) (t : Ty) (x : Const) (xs : List Const) :
    callBuiltin sem .mkCons [.con x, .con (.list t xs)] =
      (if x.ty = t then .ok (.con (.list t (x :: xs))) else .err) := by
  rw [callBuiltin_of_core_guard (p := t ≠ x.ty) rfl]
  by_cases h : x.ty = t
  · rw [if_pos h, if_neg (not_not_intro h.symm)]
  · rw [if_neg h, if_pos (Ne.symm h)]

/-- `dropList n xs`: non-positive `n` leaves the list; an `n` beyond the length, of whatever size, empties it -/
theorem dropList_spec (sem : Sem) (n : Int) (t : Ty) (xs : List Const) :
    callBuiltin sem .dropList [I n, .con (.list t xs)] = .ok (.con (.list t (xs.drop n.toNat))) := by
  refine (callBuiltin_of_core_con (c := .list t (if n ≤ 0 then xs else xs.drop n.toNat)) rfl).trans ?_
  by_cases hn : n ≤ 0
  · rw [if_pos hn, Int.toNat_of_nonpos hn, List.drop_zero]
  · rw [if_neg hn]

/-- polymorphic selectors return one of their arguments unchanged, whatever it is -/
theorem selectors_spec (sem : Sem) (a b : Value) :
    callBuiltin sem .ifThenElse [.con (.bool true), a, b] = .ok a ∧
    callBuiltin sem .ifThenElse [.con (.bool false), a, b] = .ok b ∧
    callBuiltin sem .chooseUnit [.con .unit, a] = .ok a ∧
    callBuiltin sem .trace [.con (.string []), a] = .ok a := by
  refine ⟨rfl, rfl, rfl, rfl⟩

theorem expMod_call (sem : Sem) (b e m : Int) :
    callBuiltin sem .expModInteger [I b, I e, I m] = (expMod b e m).bind fun r => .ok (I r) := by
  rw [callBuiltin]
  show ((expMod b e m).bind _).bind _ = _
  cases expMod b e m <;> rfl

/-- `expModInteger b e m` with `e ≥ 0` IS `b ^ e mod m` (mathematical, non-negative remainder) for
every base, exponent and modulus `> 1` inside the implementation's 8192-bit operand limits -/
theorem expMod_is_modular_exponentiation (sem : Sem) (b e m : Int) (hm : 1 < m) (hmb : m ≤ expModBound - 1)
    (he : 0 ≤ e) (heb : e ≤ expModBound - 1) (hb1 : -expModBound ≤ b) (hb2 : b ≤ expModBound - 1) :
    callBuiltin sem .expModInteger [I b, I e, I m] = .ok (I (b ^ e.toNat % m)) := by
  rw [expMod_call, expMod_nonneg b e m hm hmb he heb hb1 hb2]
  rfl

/-- with a negative exponent it fails when `modularInverse` finds nothing, and otherwise returns the
`-e`-th power of `inv.toNat` for a number `inv` with `inv · b ≡ 1 (mod m)` (that `0 ≤ inv` is not stated) -/
theorem expMod_negative_exponent (sem : Sem) (b e m : Int) (hm : 1 < m) (hmb : m ≤ expModBound - 1) (he : e < 0)
    (heb : -expModBound ≤ e) (hb1 : -expModBound ≤ b) (hb2 : b ≤ expModBound - 1) (hb0 : b ≠ 0) :
    (modularInverse b m = none ∧ callBuiltin sem .expModInteger [I b, I e, I m] = .err) ∨
    (∃ inv, m ∣ inv * b - 1 ∧
      callBuiltin sem .expModInteger [I b, I e, I m] = .ok (I ((inv.toNat : Int) ^ (-e).toNat % m))) := by
  rw [expMod_call, expMod_neg b e m hm hmb he heb hb1 hb2 hb0]
  cases hi : modularInverse b m with
  | none => exact .inl ⟨rfl, rfl⟩
  | some inv => exact .inr ⟨inv, modularInverse_sound b m inv hi, rfl⟩

/-- non-vacuity: the hypotheses hold for `3 ^ 5 mod 7` (so the theorem gives `243 % 7 = 5`), and the
inverse of 3 modulo 7 found by the loop is 5 while 2 has none modulo 4 -/
example : callBuiltin .E .expModInteger [I 3, I 5, I 7] = .ok (I (3 ^ (5 : Int).toNat % 7)) :=
  expMod_is_modular_exponentiation .E 3 5 7 (by decide) (by unfold expModBound; decide +kernel) (by decide)
    (by unfold expModBound; decide +kernel) (by unfold expModBound; decide +kernel) (by unfold expModBound; decide +kernel)
example : modularInverse 3 7 = some 5 ∧ modularInverse 2 4 = none := by
  constructor <;> rfl

/-- `rotateByteString` is the bit rotation `rotl` (any amount, reduced modulo the bit length) -/
theorem rotate_spec (sem : Sem) (bs : Bytes) (k : Int) (hk : sem = .E → fitsI64 k = true) :
    callBuiltin sem .rotateByteString [BS bs, I k] = .ok (BS (rotl bs k)) := by
  apply callBuiltin_of_core_con
  show (if (sem == .E && !fitsI64 k) = true then Res.err else if bs.isEmpty then _ else _) = _
  rw [i64_guard hk, if_neg Bool.false_ne_true, rotl, rotBits]
  split <;> rfl

/-- under variant E an amount outside the 64-bit range is an evaluation failure -/
theorem rotate_rejects_beyond_i64 (bs : Bytes) (k : Int) (hk : fitsI64 k = false) :
    callBuiltin .E .rotateByteString [BS bs, I k] = .err := by
  rw [callBuiltin]
  show (if (true && !fitsI64 k) = true then Res.err else _).bind _ = _
  rw [hk]
  rfl

/-- rotating by `k` and then by `-k` restores the byte string — for every byte string and EVERY amount
the variant accepts; the result always has the length of the input -/
theorem rotate_inverse (sem : Sem) (bs : Bytes) (k : Int)
    (hk : sem = .E → fitsI64 k = true ∧ fitsI64 (-k) = true) :
    ∃ r, callBuiltin sem .rotateByteString [BS bs, I k] = .ok (BS r) ∧ r.length = bs.length ∧
      callBuiltin sem .rotateByteString [BS r, I (-k)] = .ok (BS bs) := by
  refine ⟨rotl bs k, rotate_spec sem bs k (fun h => (hk h).1), rotl_length bs k, ?_⟩
  rw [rotate_spec sem (rotl bs k) (-k) (fun h => (hk h).2), rotl_inverse]

/-- a bit written by `writeBits` is the bit `readBit` returns at that index (index 0 = least
significant bit of the LAST byte), for every in-range index -/
theorem writeBits_readBit (sem : Sem) (v : Bool) (bs : Bytes) (i : Int) (h0 : 0 ≤ i)
    (h1 : i < (bs.length * 8 : Nat)) :
    ∃ bs', callBuiltin sem .writeBits [BS bs, .con (.list .integer [.integer i]), .con (.bool v)] = .ok (BS bs') ∧
      bs'.length = bs.length ∧
      callBuiltin sem .readBit [BS bs', I i] = .ok (.con (.bool v)) := by
  obtain ⟨bs', hw, hl, byte, hb, hv⟩ := writeBit_then_readBit v bs i h0 h1
  refine ⟨bs', ?_, hl, ?_⟩
  · apply callBuiltin_of_core_con
    show (writeBitsLoop v [.integer i] bs).bind _ = _
    rw [hw]
    rfl
  · apply callBuiltin_of_core_con
    have hne : bs'.isEmpty = false := by
      cases bs' with
      | nil => simp at hl; omega
      | cons _ _ => rfl
    have hc : 0 ≤ i ∧ i < (bs'.length : Int) * 8 := by rw [hl]; omega
    simp [callBuiltinCore, getArgB, Value.unwrapByteString, Value.unwrapInteger, bind, Res.bind, pure, hne, hc, hb, hv]

/-- and indices outside `0 ≤ i < 8·length` are failures of both builtins, never a crash -/
theorem bit_index_out_of_range (sem : Sem) (v : Bool) (bs : Bytes) (i : Int)
    (h : i < 0 ∨ i ≥ (bs.length * 8 : Nat)) :
    callBuiltin sem .writeBits [BS bs, .con (.list .integer [.integer i]), .con (.bool v)] = .err ∧
    callBuiltin sem .readBit [BS bs, I i] = .err := by
  have hc : (decide (i < 0) || decide (i ≥ ((bs.length * 8 : Nat) : Int))) = true := by
    rw [Bool.or_eq_true, decide_eq_true_eq, decide_eq_true_eq]; exact h
  constructor
  · show ((writeBitsLoop v [.integer i] bs).bind _).bind _ = _
    rw [writeBitsLoop, if_pos hc]; rfl
  · show (if bs.isEmpty = true then Res.err
      else if (decide (i < 0) || decide (i ≥ ((bs.length * 8 : Nat) : Int))) = true then Res.err else _).bind _ = _
    rw [if_pos hc, ite_self]; rfl

/-- `shiftByteString`: by 0 it is the identity; by the bit length or more (either direction, any
size the variant accepts) every bit is shifted out; the length never changes -/
theorem shift_zero_and_out_of_range (sem : Sem) (bs : Bytes) :
    callBuiltin sem .shiftByteString [BS bs, I 0] = .ok (BS bs) ∧
    (∀ k : Int, (sem = .E → fitsI64 k = true) → (bs.length * 8 : Nat) ≤ k.natAbs →
      callBuiltin sem .shiftByteString [BS bs, I k] = .ok (BS (List.replicate bs.length 0))) := by
  constructor
  · apply callBuiltin_of_core_con
    show (if (sem == .E && !fitsI64 0) = true then Res.err
      else if (bs.length * 8 : Nat) ≤ (0 : Int).natAbs then _ else _) = _
    rw [i64_guard (fun _ => rfl), if_neg Bool.false_ne_true]
    cases bs with
    | nil => rfl
    | cons b bs =>
      rw [if_neg (Nat.not_le.mpr (Nat.mul_pos (Nat.succ_pos bs.length) (by decide)) :
        ¬ (b :: bs).length * 8 ≤ (0 : Int).natAbs)]
      simp only [Int.natAbs_zero, ge_iff_le, Int.le_refl, if_true, List.drop_zero, List.replicate_zero,
        List.append_nil, Bytes'.ofBits_toBits]
      rfl
  · intro k hk hle
    apply callBuiltin_of_core_con
    show (if (sem == .E && !fitsI64 k) = true then Res.err else if (bs.length * 8 : Nat) ≤ k.natAbs then _ else _) = _
    rw [i64_guard hk, if_neg Bool.false_ne_true, if_pos hle]
    rfl

/-- `lessThanByteString` / `lessThanEqualsByteString` / `equalsByteString` decide the lexicographic
order of the byte lists (first differing byte decides, a proper prefix is smaller) and equality -/
theorem byte_comparison_is_lexicographic (sem : Sem) (a b : Bytes) :
    callBuiltin sem .lessThanByteString [BS a, BS b] = .ok (.con (.bool (decide (a < b)))) ∧
    callBuiltin sem .lessThanEqualsByteString [BS a, BS b] = .ok (.con (.bool (decide (a ≤ b)))) ∧
    callBuiltin sem .equalsByteString [BS a, BS b] = .ok (.con (.bool (decide (a = b)))) := by
  have h1 : Bytes'.lt a b = decide (a < b) := by
    rw [Bool.eq_iff_iff, decide_eq_true_iff]; exact bytes_lt_iff_lex a b
  have h2 : Bytes'.le a b = decide (a ≤ b) := by
    rw [Bool.eq_iff_iff, decide_eq_true_iff]; exact bytes_le_iff_lex a b
  have h3 : (a == b) = decide (a = b) := by
    rw [Bool.eq_iff_iff, decide_eq_true_iff, beq_iff_eq]
  exact ⟨h1 ▸ rfl, h2 ▸ rfl, h3 ▸ rfl⟩

/-- `decodeUtf8` inverts `encodeUtf8` for EVERY string (all four encoding lengths, the surrogate gap,
U+10FFFF), and `appendString` / `encodeUtf8` commute with concatenation -/
theorem decodeUtf8_encodeUtf8 (sem : Sem) (s t : List Char) :
    (∃ bs, callBuiltin sem .encodeUtf8 [.con (.string s)] = .ok (BS bs) ∧
      callBuiltin sem .decodeUtf8 [BS bs] = .ok (.con (.string s))) ∧
    callBuiltin sem .appendString [.con (.string s), .con (.string t)] = .ok (.con (.string (s ++ t))) ∧
    utf8Encode (s ++ t) = utf8Encode s ++ utf8Encode t := by
  refine ⟨⟨utf8Encode s, rfl, ?_⟩, rfl, by simp [utf8Encode]⟩
  apply callBuiltin_of_core_con
  simp only [callBuiltinCore, getArgB, List.getElem?_cons_zero, Value.unwrapByteString, bind, Res.bind, pure,
    utf8Decode_utf8Encode]

/-- non-vacuity / rejection side: an overlong encoding, a lone continuation byte and an encoded
surrogate are evaluation failures -/
example : callBuiltin .E .decodeUtf8 [BS [0xC0, 0x80]] = .err ∧ callBuiltin .E .decodeUtf8 [BS [0x80]] = .err ∧
    callBuiltin .E .decodeUtf8 [BS [0xED, 0xA0, 0x80]] = .err ∧
    callBuiltin .E .decodeUtf8 [BS [0xF4, 0x8F, 0xBF, 0xBF]] = .ok (.con (.string [Char.ofNat 0x10FFFF])) := by
  refine ⟨rfl, rfl, rfl, rfl⟩

/-- the three bitwise operations are commutative (padding or truncating) and idempotent resp. nilpotent -/
theorem bitwise_laws (sem : Sem) (pad : Bool) (x y : Bytes) :
    callBuiltin sem .andByteString [.con (.bool pad), BS x, BS y] = callBuiltin sem .andByteString [.con (.bool pad), BS y, BS x] ∧
    callBuiltin sem .orByteString [.con (.bool pad), BS x, BS y] = callBuiltin sem .orByteString [.con (.bool pad), BS y, BS x] ∧
    callBuiltin sem .xorByteString [.con (.bool pad), BS x, BS y] = callBuiltin sem .xorByteString [.con (.bool pad), BS y, BS x] ∧
    callBuiltin sem .andByteString [.con (.bool pad), BS x, BS x] = .ok (BS x) ∧
    callBuiltin sem .orByteString [.con (.bool pad), BS x, BS x] = .ok (BS x) ∧
    callBuiltin sem .xorByteString [.con (.bool pad), BS x, BS x] = .ok (BS (List.replicate x.length 0)) := by
  have hand (u v : Bytes) : callBuiltin sem .andByteString [.con (.bool pad), BS u, BS v] =
      .ok (BS (zipBytes (· &&& ·) pad u v)) := rfl
  have hor (u v : Bytes) : callBuiltin sem .orByteString [.con (.bool pad), BS u, BS v] =
      .ok (BS (zipBytes (· ||| ·) pad u v)) := rfl
  have hxor (u v : Bytes) : callBuiltin sem .xorByteString [.con (.bool pad), BS u, BS v] =
      .ok (BS (zipBytes (· ^^^ ·) pad u v)) := rfl
  refine ⟨?_, ?_, ?_, ?_, ?_, ?_⟩
  · rw [hand, hand, zipBytes_comm _ UInt8.and_comm]
  · rw [hor, hor, zipBytes_comm _ UInt8.or_comm]
  · rw [hxor, hxor, zipBytes_comm _ UInt8.xor_comm]
  · rw [hand, zipBytes_self]; simp
  · rw [hor, zipBytes_self]; simp
  · rw [hxor, zipBytes_self]; simp only [UInt8.xor_self, List.map_const']

/-- `findFirstSetBit` answers -1 exactly for an all-zero (or empty) byte string; otherwise an index
inside the string (`0 ≤ r < 8·length`) -/
theorem findFirstSetBit_spec (sem : Sem) (bs : Bytes) :
    ∃ r : Int, callBuiltin sem .findFirstSetBit [BS bs] = .ok (I r) ∧
      (r = -1 ↔ ∀ b ∈ bs, b = 0) ∧ (r ≠ -1 → 0 ≤ r ∧ r < (8 * bs.length : Nat)) := by
  refine ⟨findFirstSet bs.reverse 0, rfl, ?_, ?_⟩
  · rw [(findFirstSet_spec bs.reverse 0).1]
    simp
  · intro h
    have := (findFirstSet_spec bs.reverse 0).2 h
    simp only [List.length_reverse] at this
    constructor <;> omega

/-- `countSetBits`: the bits set in `x` and in its complement add up to the bit length; the count of the
empty string is 0 -/
theorem countSetBits_complement (sem : Sem) (x : Bytes) :
    ∃ c d : Int, callBuiltin sem .countSetBits [BS x] = .ok (I c) ∧
      callBuiltin sem .countSetBits [BS (x.map (· ^^^ 255))] = .ok (I d) ∧
      c + d = (8 * x.length : Nat) ∧ 0 ≤ c ∧ 0 ≤ d := by
  refine ⟨Bytes'.popCount x, Bytes'.popCount (x.map (· ^^^ 255)), rfl, rfl, ?_, Int.natCast_nonneg _,
    Int.natCast_nonneg _⟩
  rw [← popCount_compl x, Int.natCast_add, Int.add_comm]

end AikenVerif.C04
