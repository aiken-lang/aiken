import AikenVerif.Lemmas.CekRefine
import AikenVerif.Lemmas.CekClosed
/-!
# C03 — the evaluator implements UPLC's operational semantics: property theorems

`AikenVerif.run` is the impl model of `Machine::run` (tied to the Rust by the
correspondence `c03-cek` and by the generated tables `arity`, `forceCount`,
`StepKind`, `termSteps`, `costSpec`); `Spec.run` is the specification's CEK machine
with builtin signatures transcribed from the specification (`Spec.sig`).
-/
namespace AikenVerif.C03
open Gen

/-- the generated `arity`/`force_count` tables are the specification's signatures, and every
signature has all its quantifiers before its arguments (the machine's force discipline relies on it) -/
theorem sig_tables_agree (b : Builtin) :
    Spec.sig b = List.replicate b.forceCount .all ++ List.replicate b.arity .arg ∧ 0 < b.arity :=
  ⟨sig_eq b, arity_pos b⟩

/-- reading back a value: the implementation's `value_as_term`/`with_env` (index arithmetic from the
end of the environment vector) is substitution of the environment through every term former -/
theorem discharge_impl_eq_spec (v : Value) : valueAsTerm v = Spec.discharge v := valueAsTerm_eq v

/-- one transition: same next state / same final term / same failure as the specification -/
theorem step_refines_spec (cfg : Config) (a : Acct) (s : State) (hs : s.wf = true) (ha : AcctWF a) :
    match step cfg a s with
    | .next a' s' => Spec.step cfg.sem (denotation cfg.sem) s = .next s' ∧ s'.wf = true ∧ AcctWF a'
    | .done _ t => Spec.step cfg.sem (denotation cfg.sem) s = .done t
    | .fail => Spec.step cfg.sem (denotation cfg.sem) s = .fail
    | _ => True := by
  have := step_good cfg a s hs ha
  revert this
  cases step cfg a s <;> exact id

theorem runFrom_refines (cfg : Config) : ∀ (fuel : Nat) (a : Acct) (s : State), s.wf = true → AcctWF a →
    match runFrom cfg fuel a s with
    | .done _ t => Spec.runFrom cfg.sem (denotation cfg.sem) fuel s = .done t
    | .fail => Spec.runFrom cfg.sem (denotation cfg.sem) fuel s = .fail
    | _ => True := by
  intro fuel
  induction fuel with
  | zero => intro a s _ _; trivial
  | succ n ih =>
    intro a s hs ha
    have hg := step_good cfg a s hs ha
    rw [runFrom, Spec.runFrom]
    generalize step cfg a s = r at hg ⊢
    cases r with
    | next a' s' =>
      rw [hg.1]
      exact ih a' s' hg.2.1 hg.2.2
    | done a' t => rw [show Spec.step _ _ s = _ from hg]
    | fail => rw [show Spec.step _ _ s = _ from hg]
    | _ => trivial

/-- **C03 (soundness)**: whatever term `Machine::run` returns for a program, under any budget,
slippage, cost model and semantics variant, is the term the specification's machine returns; and
whenever it reports an evaluation failure, so does the specification's machine. -/
theorem cek_refines_spec (cfg : Config) (fuel : Nat) (budget : ExBudget) (t : NTerm) :
    match run cfg fuel budget t with
    | .done _ r => Spec.run cfg.sem (denotation cfg.sem) fuel t = .done r
    | .fail => Spec.run cfg.sem (denotation cfg.sem) fuel t = .fail
    | _ => True := by
  rcases run_cases cfg fuel budget t with h | ⟨h, _⟩ | ⟨c, _, _, h⟩ <;> rw [h]
  · trivial
  · trivial
  · exact runFrom_refines cfg fuel _ (.compute [] [] t) rfl rfl

/-- **C03 (completeness up to resources)**: if the specification's machine finishes with `r` within
`fuel` steps, the implementation either returns exactly `r` or stops for a reason outside the
semantics (budget exhausted, unmodelled builtin) — it never returns a different term and never
reports a failure the specification does not have. -/
theorem spec_result_is_impl_result (cfg : Config) (fuel : Nat) (budget : ExBudget) (t : NTerm) (r : NTerm)
    (h : Spec.run cfg.sem (denotation cfg.sem) fuel t = .done r) :
    match run cfg fuel budget t with
    | .done _ r' => r' = r
    | .fail => False
    | _ => True := by
  have := cek_refines_spec cfg fuel budget t
  revert this
  cases run cfg fuel budget t with
  | done a r' => intro h'; exact Spec.SRun.done.inj (h'.symm.trans h)
  | fail => intro h'; cases h'.symm.trans h
  | _ => intro _; trivial

theorem runFrom_closed (cfg : Config) : ∀ (fuel : Nat) (a a' : Acct) (s : State) (t : NTerm),
    s.closed = true → runFrom cfg fuel a s = .done a' t → Term.closedAt 0 t = true := by
  intro fuel
  induction fuel with
  | zero => intro a a' s t _ h; cases h
  | succ n ih =>
    intro a a' s t hs h
    have hc := step_closed cfg a s hs
    rw [runFrom] at h
    generalize step cfg a s = r at hc h
    cases r with
    | next a1 s1 => exact ih a1 a' s1 t hc h
    | done a1 t1 =>
      cases h
      exact hc
    | _ => cases h

/-- **C03 (result is closed)**: evaluating a CLOSED term returns a term with no free variable:
every captured variable has been substituted, under lambdas, delays, applications, constructors
and case expressions alike. -/
theorem result_closed (cfg : Config) (fuel : Nat) (budget : ExBudget) (t r : NTerm) (a' : Acct)
    (ht : Term.closedAt 0 t = true) (h : run cfg fuel budget t = .done a' r) : Term.closedAt 0 r = true := by
  rcases run_cases cfg fuel budget t with h' | ⟨h', _⟩ | ⟨c, _, _, h'⟩ <;> rw [h'] at h
  · cases h
  · cases h
  · exact runFrom_closed cfg fuel _ a' (.compute [] [] t) r (by simp [State.closed, Value.closedList, ht]) h

/-- more fuel never changes a finished run -/
theorem runFrom_fuel_mono (cfg : Config) : ∀ (n : Nat) (a : Acct) (s : State) (m : Nat),
    runFrom cfg n a s ≠ .outOfFuel → runFrom cfg (n + m) a s = runFrom cfg n a s := by
  intro n
  induction n with
  | zero => intro a s m h; exact absurd rfl h
  | succ n ih =>
    intro a s m h
    rw [Nat.succ_add, runFrom, runFrom]
    rw [runFrom] at h
    generalize step cfg a s = r at h ⊢
    cases r with
    | next a' s' => exact ih a' s' m h
    | _ => rfl

/-- non-vacuity: on a closed program with an application, a `delay`, `constr`, `case` and a builtin
under a lambda, the specification's machine returns the substituted closed term -/
example :
    let t : NTerm :=
      .app (.lam ⟨"x", 0⟩ (.delay (.constr 0 [.var ⟨"x", 1⟩,
        .case (.constr 1 [.const (.integer 2)]) [.error, .lam ⟨"y", 0⟩
          (.app (.app (.builtin .addInteger) (.var ⟨"y", 1⟩)) (.var ⟨"x", 2⟩))]])))
        (.const (.integer 40))
    Spec.run .E (denotation .E) 50 t =
      .done (.delay (.constr 0 [.const (.integer 40),
        .case (.constr 1 [.const (.integer 2)]) [.error, .lam ⟨"y", 0⟩
          (.app (.app (.builtin .addInteger) (.var ⟨"y", 1⟩)) (.const (.integer 40)))]])) := by
  rfl

end AikenVerif.C03
