import AikenVerif.Props.C03
import AikenVerif.Model.CostSpecTable
import AikenVerif.Lemmas.CostNonneg
/-!
# C05 — execution budgets are exact: property theorems

`ledger` is the specification of the cost: for every transition of the specification's machine the
step cost of the term former computed or the costing function of the builtin called (`stepCharge`);
`programCost` adds the start-up cost.  Neither mentions the budget or the batching interval.
The impl model (`run`) spends in batches (`unbudgeted_steps`, slippage) exactly as `machine.rs`.
-/
namespace AikenVerif.C05
open Gen

def ledger (cm : CostModel) (sem : Sem) : Nat → State → ExBudget
  | 0, _ => .zero
  | n + 1, s =>
    match Spec.step sem (denotation sem) s with
    | .next s' => (stepCharge cm sem s).add (ledger cm sem n s')
    | _ => .zero

theorem runFrom_charged (cfg : Config) : ∀ (fuel : Nat) (a a' : Acct) (s : State) (t : NTerm),
    s.wf = true → AcctWF a → AcctInv cfg.costs a → runFrom cfg fuel a s = .done a' t →
    a'.budget = (eff cfg.costs a).sub (ledger cfg.costs cfg.sem fuel s) ∧ NonNeg a'.budget := by
  intro fuel
  induction fuel with
  | zero => intro a a' s t _ _ _ h; cases h
  | succ n ih =>
    intro a a' s t hs hw hi h
    have hg := step_good cfg a s hs hw
    have hc := step_charged cfg a s hi
    rw [runFrom] at h
    generalize step cfg a s = r at hg hc h
    cases r with
    | next a1 s1 =>
      obtain ⟨h1, h2⟩ := ih a1 a' s1 t hg.2.1 hg.2.2 hc.2 h
      refine ⟨?_, h2⟩
      simp only [ledger, hg.1]
      rw [h1, hc.1, ExBudget.sub_add]
    | done a1 t1 =>
      cases h
      refine ⟨?_, hc.2⟩
      simp only [ledger, show Spec.step _ _ s = _ from hg]
      rw [hc.1, ExBudget.sub_zero]
    | _ => cases h

/-- the account `Machine::run` starts from, once the start-up cost is paid -/
theorem initial_inv (cm : CostModel) (b : ExBudget) (hn : NonNeg b) :
    AcctInv cm ⟨b, initCounts⟩ ∧ eff cm ⟨b, initCounts⟩ = b := by
  have hp : pending cm ⟨b, initCounts⟩ = .zero :=
    pending_of_zero cm _ fun j => by
      simp only [initCounts, List.getD_eq_getElem?_getD, List.getElem?_replicate]
      split <;> rfl
  exact ⟨⟨rfl, fun _ => hp, hn⟩, by rw [eff, hp, ExBudget.sub_zero]⟩

def programCost (cm : CostModel) (sem : Sem) (fuel : Nat) (t : NTerm) : ExBudget :=
  (stepCostOf cm .startUp).add (ledger cm sem fuel (.compute [] [] t))

/-- **C05 (exactness)**: a successful evaluation leaves exactly `budget − (start-up + Σ step costs +
Σ builtin costs)`, whatever the batching interval, and the remaining budget is never negative. -/
theorem charged_exact (cfg : Config) (fuel : Nat) (budget : ExBudget) (t r : NTerm) (a' : Acct)
    (h : run cfg fuel budget t = .done a' r) :
    a'.budget = budget.sub (programCost cfg.costs cfg.sem fuel t) ∧ 0 ≤ a'.budget.mem ∧ 0 ≤ a'.budget.cpu := by
  rcases run_cases cfg fuel budget t with h' | ⟨h', _⟩ | ⟨c, hsu, hn, h'⟩ <;> rw [h'] at h
  · cases h
  · cases h
  · obtain ⟨hi, he⟩ := initial_inv cfg.costs _ hn
    obtain ⟨h1, h2⟩ := runFrom_charged cfg fuel _ a' (.compute [] [] t) r rfl hi.len hi h
    refine ⟨?_, h2.1, h2.2⟩
    rw [h1, he, programCost, stepCostOf, hsu, Option.getD_some, ExBudget.sub_add]

/-- **C05 (batching is irrelevant)**: two successful evaluations of the same program under the same
cost model and semantics — with any two slippages and any two budgets — return the same term and
are charged the same amount. -/
theorem slippage_irrelevant (costs : CostModel) (sem : Sem) (s1 s2 : Nat) (fuel : Nat) (b1 b2 : ExBudget)
    (t r1 r2 : NTerm) (a1 a2 : Acct)
    (h1 : run ⟨costs, sem, s1⟩ fuel b1 t = .done a1 r1)
    (h2 : run ⟨costs, sem, s2⟩ fuel b2 t = .done a2 r2) :
    r1 = r2 ∧ b1.sub a1.budget = b2.sub a2.budget := by
  have e1 := charged_exact ⟨costs, sem, s1⟩ fuel b1 t r1 a1 h1
  have e2 := charged_exact ⟨costs, sem, s2⟩ fuel b2 t r2 a2 h2
  have c1 := C03.cek_refines_spec ⟨costs, sem, s1⟩ fuel b1 t
  have c2 := C03.cek_refines_spec ⟨costs, sem, s2⟩ fuel b2 t
  rw [h1] at c1
  rw [h2] at c2
  simp only at c1 c2
  refine ⟨?_, ?_⟩
  · rw [c1] at c2; cases c2; rfl
  · rw [e1.1, e2.1, ExBudget.sub_sub_self, ExBudget.sub_sub_self]

/-- **C05 (no success beyond the budget)**: success implies that the program's cost fits the budget
in both dimensions. -/
theorem success_implies_cost_le_budget (cfg : Config) (fuel : Nat) (budget : ExBudget) (t r : NTerm) (a' : Acct)
    (h : run cfg fuel budget t = .done a' r) :
    (programCost cfg.costs cfg.sem fuel t).mem ≤ budget.mem ∧ (programCost cfg.costs cfg.sem fuel t).cpu ≤ budget.cpu := by
  obtain ⟨h1, h2, h3⟩ := charged_exact cfg fuel budget t r a' h
  rw [h1] at h2 h3
  exact ExBudget.nonNeg_sub.1 ⟨h2, h3⟩

theorem ledger_nonneg (cm : CostModel) (sem : Sem) (hn : NonnegCosts cm sem) : ∀ (n : Nat) (s : State),
    ExBudget.le .zero (ledger cm sem n s) := by
  intro n
  induction n with
  | zero => intro s; exact ⟨Int.le_refl 0, Int.le_refl 0⟩
  | succ n ih =>
    intro s
    simp only [ledger]
    split
    · rename_i s' _
      exact ⟨Int.add_nonneg (stepCharge_nonneg cm sem hn s).1 (ih s').1,
        Int.add_nonneg (stepCharge_nonneg cm sem hn s).2 (ih s').2⟩
    · exact ⟨Int.le_refl 0, Int.le_refl 0⟩

theorem runFrom_no_oob (cfg : Config) (hn : NonnegCosts cfg.costs cfg.sem) : ∀ (fuel : Nat) (a : Acct) (s : State) (t : NTerm),
    s.wf = true → AcctWF a → AcctInv cfg.costs a →
    Spec.runFrom cfg.sem (denotation cfg.sem) fuel s = .done t →
    ExBudget.le (ledger cfg.costs cfg.sem fuel s) (eff cfg.costs a) →
    runFrom cfg fuel a s ≠ .oob := by
  intro fuel
  induction fuel with
  | zero => intro a s t _ _ _ h; cases h
  | succ n ih =>
    intro a s t hs hw hi hspec hle
    have hg := step_good cfg a s hs hw
    have hc := step_charged cfg a s hi
    simp only [Spec.runFrom] at hspec
    simp only [ledger] at hle
    -- the charge of this transition is covered: what remains of the ledger is non-negative
    have hno : step cfg a s ≠ .oob := by
      apply step_no_oob cfg hn a s hi
      cases hsp : Spec.step cfg.sem (denotation cfg.sem) s with
      | next s1 =>
        rw [hsp] at hle
        exact ExBudget.le_of_add_le hle (ledger_nonneg cfg.costs cfg.sem hn n s1)
      | done t1 =>
        obtain ⟨v, rfl⟩ := spec_step_done cfg.sem (denotation cfg.sem) s t1 hsp
        rw [hsp] at hle
        exact hle
      | fail => rw [hsp] at hspec; cases hspec
      | other => rw [hsp] at hspec; cases hspec
    rw [runFrom]
    cases hst : step cfg a s with
    | next a1 s1 =>
      rw [hst] at hg hc
      rw [hg.1] at hspec hle
      apply ih a1 s1 t hg.2.1 hg.2.2 hc.2 hspec
      rw [hc.1]
      exact ExBudget.le_sub_of_add_le hle
    | oob => exact absurd hst hno
    | _ => intro h; cases h

/-- **C05 (budget threshold, ⇐)**: with non-negative prices, if the program's ledger cost fits the
budget in both dimensions then evaluation never stops for budget reasons (and, the specification's
run being successful, never reports a failure either) — whatever the batching interval. Together
with `success_implies_cost_le_budget` this is "succeeds iff cost ≤ budget". -/
theorem budget_suffices (cfg : Config) (hn : NonnegCosts cfg.costs cfg.sem) (fuel : Nat) (budget : ExBudget)
    (t r : NTerm) (hstart : ExBudget.le .zero (stepCostOf cfg.costs .startUp))
    (hspec : Spec.run cfg.sem (denotation cfg.sem) fuel t = .done r)
    (hle : ExBudget.le (programCost cfg.costs cfg.sem fuel t) budget) :
    run cfg fuel budget t ≠ .oob ∧ run cfg fuel budget t ≠ .fail := by
  have hfail : run cfg fuel budget t ≠ .fail := by
    have := C03.cek_refines_spec cfg fuel budget t
    intro h
    rw [h] at this
    simp only at this
    rw [hspec] at this
    cases this
  refine ⟨?_, hfail⟩
  have hl := ledger_nonneg cfg.costs cfg.sem hn fuel (.compute [] [] t)
  rcases run_cases cfg fuel budget t with h | ⟨_, c, hsu, hneg⟩ | ⟨c, hsu, hn', h⟩
  · rw [h]; intro h; cases h
  · rw [programCost, stepCostOf, hsu, Option.getD_some] at hle
    exact absurd (ExBudget.nonNeg_sub.2 (ExBudget.le_of_add_le hle hl)) hneg
  · obtain ⟨hi, he⟩ := initial_inv cfg.costs _ hn'
    rw [programCost, stepCostOf, hsu, Option.getD_some] at hle
    rw [h]
    apply runFrom_no_oob cfg hn fuel _ (.compute [] [] t) r rfl hi.len hi hspec
    rw [he]
    exact ExBudget.le_sub_of_add_le hle

/-- **which size measure feeds which costing function**: the recipe regenerated from `cost_model.rs`
(argument measured as memory words / literally / as a size in bytes / by list length / under the
ledger variant for text, and the fallible preliminary steps) is the specification's, builtin by
builtin; so `builtinCost` is the specification's cost function -/
theorem measure_table (b : Builtin) : Gen.costSpec b = Spec.costSpecOf b := by
  cases b <;> rfl

theorem builtinCost_is_spec (cm : CostModel) (sem : Sem) (b : Builtin) (args : List Value) :
    builtinCost cm sem b args = builtinCostWith (Spec.costSpecOf b) cm sem b args := by
  rw [← measure_table b]; rfl

/-- the generated step-kind tables are coherent: counter `i` of `unbudgeted_steps` is priced with the
cost of the step kind whose tag is `i` (that no term former is charged as the start-up kind is
`termKind_ne_startUp`) -/
theorem machine_costs_table :
    (∀ k : StepKind, k ≠ .startUp → StepKind.ofTag k.tag = some k) ∧
    (∀ i, i < 9 → ∃ k, StepKind.ofTag i = some k) ∧
    Gen.unbudgetedLen = 10 :=
  ⟨ofTag_tag, ofTag_some, rfl⟩

/-- the price hypotheses of `budget_suffices` follow from two DECIDABLE checks on the cost model
(`stepsPositive`: every step kind priced, non-negative, ≥ 1 cpu; `builtinsNonneg`: no costing function
with a negative coefficient or floor), which the driver evaluates on the cost models of the real
evaluator (`costpos`, correspondence `c05-budget` / `c10-eval`).  So for those: succeeds iff cost ≤ budget. -/
theorem budget_suffices_checked (cfg : Config) (h1 : stepsPositive cfg.costs = true)
    (h2 : builtinsNonneg cfg.costs = true) (fuel : Nat) (budget : ExBudget) (t r : NTerm)
    (hspec : Spec.run cfg.sem (denotation cfg.sem) fuel t = .done r)
    (hle : ExBudget.le (programCost cfg.costs cfg.sem fuel t) budget) :
    run cfg fuel budget t ≠ .oob ∧ run cfg fuel budget t ≠ .fail := by
  have hp := posCosts_of_checks cfg.costs cfg.sem h1 h2
  have hk := kindOK_sound cfg.costs .startUp (List.all_eq_true.mp h1 _ (mem_allKinds .startUp))
  exact budget_suffices cfg hp.nonneg fuel budget t r ⟨hk.1, hk.2.1⟩ hspec hle

/-- non-vacuity: a concrete program, cost model and two slippages for which the hypotheses hold -/
example :
    let cm : CostModel := ⟨[("startup", ⟨100, 100⟩), ("constant", ⟨100, 16000⟩), ("apply", ⟨100, 16000⟩),
      ("lambda", ⟨100, 16000⟩), ("var", ⟨100, 16000⟩), ("delay", ⟨1, 2⟩), ("force", ⟨3, 4⟩),
      ("builtin", ⟨5, 6⟩), ("constr", ⟨7, 8⟩), ("case", ⟨9, 10⟩)], []⟩
    let t : NTerm := .app (.lam ⟨"x", 0⟩ (.var ⟨"x", 1⟩)) (.const (.integer 1))
    (∃ a, run ⟨cm, .E, 200⟩ 20 ⟨1000, 100000⟩ t = .done a (.const (.integer 1)) ∧ a.budget = ⟨500, 35900⟩) ∧
    (∃ a, run ⟨cm, .E, 1⟩ 20 ⟨500, 64100⟩ t = .done a (.const (.integer 1)) ∧ a.budget = ⟨0, 0⟩) := by
  exact ⟨⟨_, rfl, rfl⟩, ⟨_, rfl, rfl⟩⟩

end AikenVerif.C05

