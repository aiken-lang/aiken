import AikenVerif.Lemmas.FlatTotal
import AikenVerif.Model.Cbor
/-!
# C20 — malformed input is rejected with an error, not a crash
## (this file: the flat / CBOR-wrapper program decoders only)

Over M-FLAT's decoder (`Model/Flat.lean`), whose outcomes are `ok | err | panic |
fuel`, for **every** byte string:

* `flat_decode_no_panic` — the decoder with the guards of
  `proposed_fixes/C20-flat-decoder-guards.diff` (`Mode.fixed`) never panics;
* `flat_decode_impl_panics_*` — the decoder as linked by the unchanged tree
  (`Mode.impl`) does, on two concrete inputs (these are the replays);
* `flat_decode_terminates` — in both modes the decoder's loops stop: the fuel
  `8·len + 1` given by `fromFlat` is never exhausted (every loop iteration and
  every nested call consumes at least one bit).

The UPLC text parser, the Aiken parser/formatter and blueprint loading are NOT
covered here.
-/
namespace AikenVerif.C20
open AikenVerif AikenVerif.Flat

/-- for `decide` (so too `isErr`): `Res (Program β)` has no decidable equality -/
def Res.isPanic {α : Type} : Res α → Bool
  | .panic => true
  | _ => false

def Res.isErr {α : Type} : Res α → Bool
  | .err => true
  | _ => false

section
variable {β : Type} [FlatBinder β]

/-- **flat_decode_no_panic** (repaired decoder): every byte string gives a
program or an error -/
theorem flat_decode_no_panic [SafeFlatBinder β] (cd : DataCodec) (bytes : Bytes) :
    (fromFlat cd .fixed bytes : Res (Program β)) ≠ .panic :=
  fun h => np_program_fixed (β := β) cd _ ((fromFlat_panic_fuel cd .fixed bytes).1 h)

/-- **flat_decode_terminates** (both decoders): the loop bound of the model is
never hit — each iteration consumes input or the decoder stops -/
theorem flat_decode_terminates [ProgFlatBinder β] (cd : DataCodec) (m : Mode) (bytes : Bytes) :
    (fromFlat cd m bytes : Res (Program β)) ≠ .fuel :=
  fun h => (prog_program (β := β) cd m _).1 ((fromFlat_panic_fuel cd m bytes).2 h)

/-- a successful decode has consumed at least 29 bits of its input (three version words, a term tag, the
filler); in particular it does not read past the end -/
theorem flat_decode_consumes [ProgFlatBinder β] (cd : DataCodec) (m : Mode) (s s' : S) (p : Program β)
    (h : decProgram cd m s = .ok (p, s')) : s'.bs.length + 29 ≤ s.bs.length :=
  (prog_program (β := β) cd m s).2 p s' h

/-- `Program::from_cbor`: the byte-string wrapper, then `from_flat` -/
def fromCbor (cd : DataCodec) (m : Mode) (bytes : Bytes) : Res (Program β) :=
  match Cbor.unwrapBytes bytes with
  | none => .err
  | some flat => fromFlat cd m flat

/-- `Cbor.unwrapBytes` is an `Option` function: the wrapper cannot panic, and this is `flat_decode_no_panic` again -/
theorem cbor_decode_no_panic [SafeFlatBinder β] (cd : DataCodec) (bytes : Bytes) :
    (fromCbor cd .fixed bytes : Res (Program β)) ≠ .panic := by
  unfold fromCbor
  split
  · simp
  · exact flat_decode_no_panic cd _

end

theorem flat_decode_no_panic_all (cd : DataCodec) (bytes : Bytes) :
    (fromFlat cd .fixed bytes : Res (Program DeBruijn)) ≠ .panic ∧
    (fromFlat cd .fixed bytes : Res (Program NamedDeBruijn)) ≠ .panic ∧
    (fromFlat cd .fixed bytes : Res (Program Name)) ≠ .panic :=
  ⟨flat_decode_no_panic cd bytes, flat_decode_no_panic cd bytes, flat_decode_no_panic cd bytes⟩

theorem flat_decode_terminates_all (cd : DataCodec) (m : Mode) (bytes : Bytes) :
    (fromFlat cd m bytes : Res (Program DeBruijn)) ≠ .fuel ∧
    (fromFlat cd m bytes : Res (Program NamedDeBruijn)) ≠ .fuel ∧
    (fromFlat cd m bytes : Res (Program Name)) ≠ .fuel :=
  ⟨flat_decode_terminates cd m bytes, flat_decode_terminates cd m bytes, flat_decode_terminates cd m bytes⟩

/-- the unchanged tree: an 11-group word makes `Decoder::word` shift by 70 -/
theorem flat_decode_impl_panics_word :
    Res.isPanic (fromFlat DataCodec.opaque .impl
      [0xff, 0xff, 0xff, 0xff, 0xff, 0xff, 0xff, 0xff, 0xff, 0xff, 0xff, 0x01] : Res (Program DeBruijn)) = true := by
  decide +kernel

/-- the unchanged tree: `(con (list (list bool)) [[` and then the buffer ends:
`Decoder::bool` indexes `buffer[pos]` with `pos = len` -/
theorem flat_decode_impl_panics_bool :
    Res.isPanic (fromFlat DataCodec.opaque .impl
      [0x01, 0x00, 0x00, 0x4b, 0xd6, 0xf5, 0xa3] : Res (Program DeBruijn)) = true := by
  decide +kernel

/-- the same two inputs are plain errors for the repaired decoder -/
theorem flat_decode_fixed_rejects :
    Res.isErr (fromFlat DataCodec.opaque .fixed
      [0xff, 0xff, 0xff, 0xff, 0xff, 0xff, 0xff, 0xff, 0xff, 0xff, 0xff, 0x01] : Res (Program DeBruijn)) = true ∧
    Res.isErr (fromFlat DataCodec.opaque .fixed
      [0x01, 0x00, 0x00, 0x4b, 0xd6, 0xf5, 0xa3] : Res (Program DeBruijn)) = true := by
  decide +kernel

end AikenVerif.C20
