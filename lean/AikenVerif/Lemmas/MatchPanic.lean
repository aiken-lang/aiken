import AikenVerif.Model.MatchPanic
import AikenVerif.Lemmas.MatchMissing
/-!
On well-typed inputs `Matrix::is_useful` never reaches its `unreachable!` / index panics and
terminates: `isUsefulX fuel M v = ok (isUseful M v)` for every large enough `fuel`.  And no row
that `collectMissing` reports contains a literal, so `Pattern::pretty` never meets one.
-/
namespace AikenVerif.Match

theorem filterMapX_ok (f : Row → Out (Option Row)) (g : Row → Option Row) (M : Matrix)
    (h : ∀ r ∈ M, f r = .ok (g r)) : filterMapX f M = .ok (M.filterMap g) := by
  induction M with
  | nil => simp [filterMapX]
  | cons r M ih =>
    have h1 := h r List.mem_cons_self
    have h2 := ih (fun r' hr' => h r' (List.mem_cons_of_mem _ hr'))
    simp only [filterMapX, h1, List.filterMap_cons]
    cases g r with
    | none => simp only [h2]
    | some r' => simp only [h2]

theorem filterMapX_ctor_ok {sg : Sig} {M : Matrix} {t : Nat} {ts : List Ty} (c a : Nat)
    (hM : Matrix.hasTy sg M (.data t :: ts) = true) :
    filterMapX (specRowCtorX c a) M = .ok (specCtor c a M) := by
  apply filterMapX_ok
  intro r hr
  have hrt := Matrix.hasTy_mem hM hr
  match r, hrt with
  | [], hrt => simp [Pat.hasTyL] at hrt
  | .lit l :: rest, hrt =>
    simp only [Pat.hasTyL, Bool.and_eq_true] at hrt
    cases l <;> simp [Pat.hasTy] at hrt
  | .wild :: rest, _ => simp [specRowCtorX, specRowCtor]
  | .ctor c' alts args :: rest, _ => simp [specRowCtorX, specRowCtor]

theorem filterMapX_lit_ok {sg : Sig} {M : Matrix} {t0 : Ty} {ts : List Ty} (l : Lit)
    (hl : Pat.hasTy sg (.lit l) t0 = true) (hM : Matrix.hasTy sg M (t0 :: ts) = true) :
    filterMapX (specRowLitX l) M = .ok (specLit l M) := by
  have ht0 : ∀ c alts args, Pat.hasTy sg (.ctor c alts args) t0 = false := by
    intro c alts args
    cases l <;> cases t0 <;> simp_all [Pat.hasTy]
  apply filterMapX_ok
  intro r hr
  have hrt := Matrix.hasTy_mem hM hr
  match r, hrt with
  | [], hrt => simp [Pat.hasTyL] at hrt
  | .ctor c alts args :: rest, hrt =>
    simp only [Pat.hasTyL, Bool.and_eq_true] at hrt
    rw [ht0] at hrt; cases hrt.1
  | .wild :: rest, _ => simp [specRowLitX, specRowLit]
  | .lit l' :: rest, _ => simp [specRowLitX, specRowLit]

theorem allNonEmpty_of_hasTy {sg : Sig} {M : Matrix} {t0 : Ty} {ts : List Ty}
    (hM : Matrix.hasTy sg M (t0 :: ts) = true) : allNonEmpty M = true := by
  simp only [allNonEmpty, List.all_eq_true]
  intro r hr
  have := Matrix.hasTy_mem hM hr
  cases r with
  | nil => simp [Pat.hasTyL] at this
  | cons p r => simp

theorem anyX_ok (g : Nat → Nat × Nat → Out Bool) (h : Nat × Nat → Bool) (alts : Alts)
    (H : ∀ alt ∈ alts, ∃ n, ∀ fuel, n ≤ fuel → g fuel alt = .ok (h alt)) :
    ∃ n, ∀ fuel, n ≤ fuel → anyX (g fuel) alts = .ok (alts.any h) := by
  induction alts with
  | nil => exact ⟨0, fun _ _ => by simp [anyX]⟩
  | cons a as ih =>
    obtain ⟨n1, h1⟩ := H a List.mem_cons_self
    obtain ⟨n2, h2⟩ := ih (fun alt ha => H alt (List.mem_cons_of_mem _ ha))
    refine ⟨max n1 n2, ?_⟩
    intro fuel hf
    have e1 := h1 fuel (Nat.le_trans (Nat.le_max_left _ _) hf)
    have e2 := h2 fuel (Nat.le_trans (Nat.le_max_right _ _) hf)
    simp only [anyX, e1, List.any_cons]
    cases h a with
    | true => simp
    | false => simp [e2]

/-- one step of fuel: `isUsefulX (k + 1)` runs the body once on `k` -/
theorem exists_fuel_succ {P : Nat → Prop} {n : Nat} (h : ∀ k, n ≤ k → P (k + 1)) :
    ∃ n, ∀ fuel, n ≤ fuel → P fuel := by
  refine ⟨n + 1, fun fuel hf => ?_⟩
  obtain ⟨k, rfl⟩ := Nat.exists_eq_succ_of_ne_zero (Nat.ne_of_gt (Nat.lt_of_lt_of_le (Nat.succ_pos n) hf))
  exact h k (Nat.le_of_succ_le_succ hf)

theorem isUsefulX_ok {sg : Sig} (hs : Sig.ok sg = true) : ∀ (M : Matrix) (v : Row) (ts : List Ty),
    Matrix.hasTy sg M ts = true → Pat.hasTyL sg v ts = true →
      ∃ n, ∀ fuel, n ≤ fuel → isUsefulX fuel M v = .ok (isUseful M v) := by
  apply isUseful.typed_induct
  case empty =>
    intro M v ts hE _
    exact exists_fuel_succ (n := 0) fun k _ => by simp [isUsefulX, hE, isUseful_empty hE]
  case nil =>
    intro M hE _
    exact exists_fuel_succ (n := 0) fun k _ => by simp [isUsefulX, hE, isUseful_nil_row hE]
  case ctor =>
    intro M c alts args rest t d tys ts hE hM hd hl hlen ⟨n, hn⟩
    refine exists_fuel_succ (n := n) fun k hk => ?_
    simp only [isUsefulX, hE, filterMapX_ctor_ok c args.length hM, isUseful_ctor hE]
    exact hn k hk
  case wild_none =>
    intro M rest t0 ts hE hM hc ⟨n, hn⟩
    refine exists_fuel_succ (n := n) fun k hk => ?_
    simp only [isUsefulX, hE, if_false, allNonEmpty_of_hasTy hM, Bool.not_true, Bool.false_eq_true,
      hc, isUseful_wild_none hE rest hc]
    exact hn k hk
  case wild_some =>
    intro M rest t d ts hE hM hd hc ih
    obtain ⟨n, hn⟩ := anyX_ok
      (fun fuel alt =>
        match filterMapX (specRowCtorX alt.1 alt.2) M with
        | .ok M' => isUsefulX fuel M' (wilds alt.2 ++ rest)
        | .panic => .panic
        | .fuel => .fuel)
      (fun alt => isUseful (specCtor alt.1 alt.2 M) (wilds alt.2 ++ rest)) (declAlts d) (by
        intro ⟨c, a⟩ halt
        obtain ⟨tys, hl, rfl⟩ := declAlts_mem_lookup (Sig.ok_get hs hd).1 halt
        simp only [filterMapX_ctor_ok c tys.length hM]
        exact ih c tys hl)
    refine exists_fuel_succ (n := n) fun k hk => ?_
    simp only [isUsefulX, hE, if_false, allNonEmpty_of_hasTy hM, Bool.not_true, Bool.false_eq_true,
      hc, isUseful_wild_some hE rest hc]
    exact hn k hk
  case lit =>
    intro M l rest t0 ts hE hM hl ⟨n, hn⟩
    refine exists_fuel_succ (n := n) fun k hk => ?_
    simp only [isUsefulX, hE, filterMapX_lit_ok l hl hM, isUseful_lit hE]
    exact hn k hk

theorem Pat.litFreeL_take_drop (k : Nat) (r : Row) (h : Pat.litFreeL r = true) :
    Pat.litFreeL (r.take k) = true ∧ Pat.litFreeL (r.drop k) = true := by
  induction r generalizing k with
  | nil => simp [Pat.litFreeL]
  | cons p r ih =>
    simp only [Pat.litFreeL, Bool.and_eq_true] at h
    cases k with
    | zero => simp [Pat.litFreeL, h.1, h.2]
    | succ k =>
      obtain ⟨h1, h2⟩ := ih k h.2
      simp [Pat.litFreeL, h.1, h1, h2]

theorem collectMissing_litFree (M : Matrix) (n : Nat) :
    ∀ p ∈ collectMissing M n, Pat.litFreeL p = true := by
  apply collectMissing.mem_induct
  case empty => intro M n _; exact Pat.litFreeL_wilds n
  case no_ctor => intro M n p' _ _ _ ih; simp [Pat.litFreeL, Pat.litFree, ih]
  case unseen =>
    intro M n alts c a p' _ _ _ ih
    simp [Pat.litFreeL, Pat.litFree, Pat.litFreeL_wilds, ih]
  case all_seen =>
    intro M n alts c a p' _ _ _ ih
    obtain ⟨h1, h2⟩ := Pat.litFreeL_take_drop a p' ih
    simp [recoverCtor, Pat.litFreeL, Pat.litFree, h1, h2]

end AikenVerif.Match
