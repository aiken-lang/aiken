import AikenVerif.Model.Flat
import AikenVerif.Lemmas.CekTyped
/-!
Bridge C20/C08 → C10: everything the flat decoder (model of `flat.rs`) produces has well-typed
constants — the hypothesis `Term.wt` of `cek_no_panic` / `cek_total`.  The decoder reads the items
of a list constant BY the declared element type, so a decoded list can only contain items of that
type.
-/
namespace AikenVerif.Flat

/-- Whatever `d` decodes satisfies `P`.  A structure, not a `def`, so that `apply` does not unfold it. -/
structure DPost {α : Type} (d : Dec α) (P : α → Prop) : Prop where
  out : ∀ s v s', d s = .ok (v, s') → P v

theorem DPost.bind {α β : Type} {d : Dec α} {f : α → Dec β} {P : α → Prop} {Q : β → Prop}
    (hd : DPost d P) (hf : ∀ a, P a → DPost (f a) Q) : DPost (d.bind f) Q := by
  constructor
  intro s v s' h
  simp only [Dec.bind] at h
  cases hds : d s with
  | ok p =>
    obtain ⟨a, s1⟩ := p
    rw [hds] at h
    exact (hf a (hd.out s a s1 hds)).out s1 v s' h
  | err | panic | fuel => rw [hds] at h; cases h

theorem DPost.pure {α : Type} {v : α} {P : α → Prop} (h : P v) : DPost (Dec.pure v) P :=
  ⟨fun _ _ _ he => by cases he; exact h⟩

theorem DPost.fail {α : Type} {P : α → Prop} : DPost (Dec.fail : Dec α) P :=
  ⟨fun _ _ _ h => by cases h⟩

theorem DPost.triv {α : Type} (d : Dec α) : DPost d (fun _ => True) := ⟨fun _ _ _ _ => trivial⟩

theorem decList_post {α : Type} {f : Dec α} {P : α → Prop} (hf : DPost f P) :
    ∀ k, DPost (decList f k) (fun xs => ∀ x ∈ xs, P x)
  | 0 => ⟨fun s v s' h => by cases h⟩
  | k + 1 => .bind (.triv decBit) fun b _ => by
    cases b with
    | true =>
      exact .bind hf fun x hx => .bind (decList_post hf k) fun xs hxs => .pure (List.forall_mem_cons.mpr ⟨hx, hxs⟩)
    | false => exact .pure fun y hy => nomatch hy

theorem decVal_post (cd : DataCodec) (m : Mode) : ∀ t : Ty, DPost (decVal cd m t) (fun c => c.ty = t ∧ c.wt = true)
  | .integer | .bytestring | .string | .bool => .bind (.triv _) fun _ _ => .pure ⟨rfl, rfl⟩
  | .unit => .pure ⟨rfl, rfl⟩
  -- `decVal (.list t)` reads its fuel from the input state, so the rule is applied under `fun s`
  | .list t => ⟨fun s v s' h =>
      (DPost.bind (Q := fun c => c.ty = .list t ∧ c.wt = true) (decList_post (decVal_post cd m t) (s.bs.length + 1))
        fun xs hxs => .pure (v := Const.list t xs) ⟨rfl, (Const.wtList_iff t xs).2 hxs⟩).out s v s' h⟩
  | .pair a b => .bind (decVal_post cd m a) fun x hx => .bind (decVal_post cd m b) fun y hy =>
      .pure ⟨rfl, by simp only [Const.wt, Bool.and_eq_true, beq_iff_eq]; exact ⟨⟨⟨hx.1, hy.1⟩, hx.2⟩, hy.2⟩⟩
  | .data => .bind (.triv _) fun b _ => by
      cases cd.dec b with
      | some d => exact .pure ⟨rfl, rfl⟩
      | none => exact .fail
  | .g1 | .g2 => .bind (.triv _) fun _ _ => .fail
  | .ml => .fail

theorem decConst_post (cd : DataCodec) (m : Mode) : DPost (decConst cd m) (fun c => c.wt = true) := by
  unfold decConst
  apply DPost.bind (DPost.triv _)
  intro tags _
  cases decConstTy tags with
  | ok t => exact ⟨fun s v s' h => ((decVal_post cd m t).out s v s' h).2⟩
  | err => exact DPost.fail
  | panic | fuel => exact ⟨fun s v s' h => by cases h⟩

theorem decTerm_post (cd : DataCodec) (m : Mode) : ∀ f : Nat,
    DPost (decTerm (β := NamedDeBruijn) cd m f) (fun t => Term.wt t = true) := by
  intro f
  induction f with
  | zero => exact ⟨fun s v s' h => by cases h⟩
  | succ f ih =>
    simp only [decTerm]
    apply DPost.bind (DPost.triv _)
    intro tag _
    cases termCtorOfTag tag with
    | none => exact DPost.fail
    | some c =>
      cases c with
      | var | builtin => exact .bind (.triv _) fun _ _ => .pure rfl
      | delay | force => exact .bind ih fun t ht => .pure ht
      | lambda => exact .bind (.triv _) fun _ _ => .bind ih fun t ht => .pure ht
      | apply => exact .bind ih fun g hg => .bind ih fun a ha => .pure (Bool.and_eq_true_iff.mpr ⟨hg, ha⟩)
      | constant => exact .bind (decConst_post cd m) fun c hc => .pure hc
      | error => exact .pure rfl
      | constr =>
        exact .bind (.triv _) fun _ _ => .bind (decList_post ih f) fun fs hfs => .pure ((Term.wtList_iff fs).2 hfs)
      | case =>
        exact .bind ih fun s hs => .bind (decList_post ih f) fun bs hbs =>
          .pure (Bool.and_eq_true_iff.mpr ⟨hs, (Term.wtList_iff bs).2 hbs⟩)

theorem decProgram_post (cd : DataCodec) (m : Mode) :
    DPost (decProgram (β := NamedDeBruijn) cd m) (fun p => Term.wt p.term = true) := by
  constructor
  intro s p s' hs
  have post := DPost.bind (Q := fun p : Program NamedDeBruijn => Term.wt p.term = true) (DPost.triv (decWord m))
    fun a _ => .bind (.triv (decWord m)) fun b _ => .bind (.triv (decWord m)) fun c _ =>
      .bind (decTerm_post cd m (s.bs.length + 1)) fun t ht => .bind (.triv decFiller) fun _ _ =>
        .pure (v := (⟨(a, b, c), t⟩ : Program NamedDeBruijn)) ht
  exact post.out s p s' hs

theorem fromFlat_wt (cd : DataCodec) (m : Mode) (bytes : Bytes) (p : Program NamedDeBruijn)
    (h : fromFlat cd m bytes = .ok p) : Term.wt p.term = true := by
  unfold fromFlat at h
  cases hd : decProgram (β := NamedDeBruijn) cd m ⟨0, bitsOfBytes bytes⟩ with
  | ok r =>
    rw [hd] at h
    cases h
    exact (decProgram_post cd m).out _ _ _ hd
  | err | panic | fuel => rw [hd] at h; cases h

end AikenVerif.Flat
