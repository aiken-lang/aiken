import AikenVerif.Lemmas.CekRefine
/-! Closedness: evaluating a closed term keeps every closure closed, and the term read back at the
end has no free variable (captured variables are substituted under every term former). -/
namespace AikenVerif
open Gen

mutual
  /-- every variable refers to one of the `d` enclosing binders (indices are 1-based) -/
  def Term.closedAt (d : Nat) : NTerm → Bool
    | .var n => decide (1 ≤ n.index) && decide (n.index ≤ d)
    | .lam _ b => Term.closedAt (d + 1) b
    | .app f a => Term.closedAt d f && Term.closedAt d a
    | .delay t => Term.closedAt d t
    | .force t => Term.closedAt d t
    | .constr _ fs => Term.closedAtList d fs
    | .case s bs => Term.closedAt d s && Term.closedAtList d bs
    | .error => true
    | .builtin _ => true
    | .const _ => true
  def Term.closedAtList (d : Nat) : List NTerm → Bool
    | [] => true
    | t :: ts => Term.closedAt d t && Term.closedAtList d ts
end

mutual
  def Value.closed : Value → Bool
    | .con _ => true
    | .delay body env => Term.closedAt env.length body && Value.closedList env
    | .lam _ body env => Term.closedAt (env.length + 1) body && Value.closedList env
    | .builtin _ _ args => Value.closedList args
    | .constr _ fs => Value.closedList fs
  def Value.closedList : List Value → Bool
    | [] => true
    | v :: vs => v.closed && Value.closedList vs
end

def Frame.closed : Frame → Bool
  | .awaitArg fn => fn.closed
  | .awaitFunTerm env t => Value.closedList env && Term.closedAt env.length t
  | .awaitFunValue v => v.closed
  | .force => true
  | .constr env _ todo done => Value.closedList env && Term.closedAtList env.length todo && Value.closedList done
  | .cases env bs => Value.closedList env && Term.closedAtList env.length bs

def State.closed : State → Bool
  | .compute ctx env t => ctx.all Frame.closed && Value.closedList env && Term.closedAt env.length t
  | .ret ctx v => ctx.all Frame.closed && v.closed

theorem closedList_iff (vs : List Value) : Value.closedList vs = true ↔ ∀ v ∈ vs, v.closed = true := by
  induction vs with
  | nil => simp [Value.closedList]
  | cons v vs ih => simp [Value.closedList, ih]

theorem closedList_append (xs ys : List Value) :
    Value.closedList (xs ++ ys) = (Value.closedList xs && Value.closedList ys) := by
  induction xs with
  | nil => simp [Value.closedList]
  | cons x xs ih => simp [Value.closedList, ih, Bool.and_assoc]

theorem closedAtList_iff (d : Nat) (ts : List NTerm) :
    Term.closedAtList d ts = true ↔ ∀ t ∈ ts, Term.closedAt d t = true := by
  induction ts with
  | nil => simp [Term.closedAtList]
  | cons t ts ih => simp [Term.closedAtList, ih]

theorem closedAt_mono_joint :
    (∀ (t : NTerm) (d e : Nat), d ≤ e → Term.closedAt d t = true → Term.closedAt e t = true) ∧
    (∀ (ts : List NTerm) (d e : Nat), d ≤ e → Term.closedAtList d ts = true → Term.closedAtList e ts = true) := by
  apply term_ind
  case var =>
    intro n d e h ht
    simp only [Term.closedAt, Bool.and_eq_true, decide_eq_true_eq] at ht ⊢
    omega
  case lam => exact fun _ _ ih d e h ht => ih (d + 1) (e + 1) (Nat.succ_le_succ h) ht
  case app | case | cons =>
    intro _ _ ih1 ih2 d e h ht
    simp only [Term.closedAt, Term.closedAtList, Bool.and_eq_true] at ht ⊢
    exact ⟨ih1 d e h ht.1, ih2 d e h ht.2⟩
  case delay | force => exact fun _ ih => ih
  case constr => exact fun _ _ ih => ih
  all_goals intros; rfl

theorem closedAt_mono (d e : Nat) (h : d ≤ e) (t : NTerm) (ht : Term.closedAt d t = true) :
    Term.closedAt e t = true :=
  closedAt_mono_joint.1 t d e h ht

theorem closedAtList_mono (d e : Nat) (h : d ≤ e) (ts : List NTerm) (ht : Term.closedAtList d ts = true) :
      Term.closedAtList e ts = true :=
  closedAt_mono_joint.2 ts d e h ht

theorem substEnv_closed_joint (env : List NTerm) (henv : ∀ t ∈ env, Term.closedAt 0 t = true) :
    (∀ (t : NTerm) (d : Nat), Term.closedAt (d + env.length) t = true →
      Term.closedAt d (substEnv d env t) = true) ∧
    (∀ (ts : List NTerm) (d : Nat), Term.closedAtList (d + env.length) ts = true →
      Term.closedAtList d (substEnv.substEnvList d env ts) = true) := by
  apply term_ind
  case var =>
    intro n d ht
    simp only [Term.closedAt, Bool.and_eq_true, decide_eq_true_eq] at ht
    unfold substEnv
    split
    · rename_i h
      simp only [Term.closedAt, Bool.and_eq_true, decide_eq_true_eq]
      exact ⟨ht.1, h⟩
    · rename_i h
      have hk : n.index - d ≤ env.length := by omega
      simp only [hk, if_true]
      have hlt : env.length - (n.index - d) < env.length := by omega
      rw [List.getElem?_eq_getElem hlt]
      exact closedAt_mono 0 d (by omega) _ (henv _ (List.getElem_mem hlt))
  case lam =>
    intro n b ih d ht
    refine ih (d + 1) ?_
    rw [Nat.add_right_comm]
    exact ht
  case app | case | cons =>
    intro _ _ ih1 ih2 d ht
    simp only [substEnv, substEnv.substEnvList, Term.closedAt, Term.closedAtList, Bool.and_eq_true] at ht ⊢
    exact ⟨ih1 d ht.1, ih2 d ht.2⟩
  case delay | force => exact fun _ ih => ih
  case constr => exact fun _ _ ih => ih
  all_goals intros; rfl

theorem substEnv_closed (d : Nat) (env : List NTerm) (henv : ∀ t ∈ env, Term.closedAt 0 t = true)
    (t : NTerm) (ht : Term.closedAt (d + env.length) t = true) : Term.closedAt d (substEnv d env t) = true :=
  (substEnv_closed_joint env henv).1 t d ht

theorem substEnvList_closed (d : Nat) (env : List NTerm) (henv : ∀ t ∈ env, Term.closedAt 0 t = true)
    (ts : List NTerm) (ht : Term.closedAtList (d + env.length) ts = true) :
    Term.closedAtList d (substEnv.substEnvList d env ts) = true :=
  (substEnv_closed_joint env henv).2 ts d ht

theorem valueAsTermList_length (vs : List Value) : (valueAsTermList vs).length = vs.length := by
  induction vs with
  | nil => rfl
  | cons v vs ih => simp [valueAsTermList, ih]

theorem forceN_closed (n : Nat) (t : NTerm) (h : Term.closedAt 0 t = true) : Term.closedAt 0 (forceN n t) = true := by
  induction n generalizing t with
  | zero => exact h
  | succ n ih => simp only [forceN]; exact ih (.force t) (by simpa [Term.closedAt] using h)

theorem applyAll_closed (t : NTerm) (as : List NTerm) (ht : Term.closedAt 0 t = true)
    (has : ∀ a ∈ as, Term.closedAt 0 a = true) : Term.closedAt 0 (applyAll t as) = true := by
  induction as generalizing t with
  | nil => exact ht
  | cons a as ih =>
    simp only [applyAll]
    apply ih
    · simp [Term.closedAt, ht, has a (by simp)]
    · intro b hb; exact has b (by simp [hb])

mutual
  theorem valueAsTerm_closed (v : Value) (hv : v.closed = true) : Term.closedAt 0 (valueAsTerm v) = true := by
    cases v with
    | con c => rfl
    | delay body env =>
      simp only [Value.closed, Bool.and_eq_true] at hv
      simp only [valueAsTerm, substEnv, Term.closedAt]
      apply substEnv_closed 0 _ (valueAsTermList_closed env hv.2)
      rw [valueAsTermList_length]; simpa using hv.1
    | lam n body env =>
      simp only [Value.closed, Bool.and_eq_true] at hv
      simp only [valueAsTerm, substEnv, Term.closedAt]
      apply substEnv_closed 1 _ (valueAsTermList_closed env hv.2)
      rw [valueAsTermList_length, Nat.add_comm]; exact hv.1
    | builtin b forces args =>
      simp only [Value.closed] at hv
      simp only [valueAsTerm]
      exact applyAll_closed _ _ (forceN_closed _ _ rfl) (valueAsTermList_closed args hv)
    | constr tag fs =>
      simp only [Value.closed] at hv
      simp only [valueAsTerm, Term.closedAt]
      exact (closedAtList_iff 0 _).2 (valueAsTermList_closed fs hv)
  theorem valueAsTermList_closed (vs : List Value) (hv : Value.closedList vs = true) :
      ∀ t ∈ valueAsTermList vs, Term.closedAt 0 t = true := by
    cases vs with
    | nil => intro t ht; simp [valueAsTermList] at ht
    | cons v vs =>
      simp only [Value.closedList, Bool.and_eq_true] at hv
      intro t ht
      simp only [valueAsTermList, List.mem_cons] at ht
      rcases ht with rfl | ht
      · exact valueAsTerm_closed v hv.1
      · exact valueAsTermList_closed vs hv.2 t ht
end

theorem callBuiltin_closed (sem : Sem) (b : Builtin) (args : List Value) (v : Value)
    (ha : Value.closedList args = true) (h : callBuiltin sem b args = .ok v) : v.closed = true := by
  rcases callBuiltin_result sem b args v h with ⟨c, rfl⟩ | hv
  · rfl
  · exact (closedList_iff args).1 ha v hv

def StepClosed : StepResult → Prop
  | .next _ s' => s'.closed = true
  | .done _ t => Term.closedAt 0 t = true
  | _ => True

theorem builtinApp_closed (cfg : Config) (a : Acct) (ctx : Ctx) (b : Builtin) (forces : Nat) (args : List Value)
    (hctx : ctx.all Frame.closed = true) (hw : Value.closedList args = true) :
    StepClosed (.ofOutcome (builtinApp cfg a ctx b forces args)) := by
  unfold builtinApp
  by_cases hl : args.length = b.arity
  · rw [if_pos hl]
    have h := evalBuiltinApp_cases cfg a b args
    revert h
    cases evalBuiltinApp cfg a b args with
    | ok p =>
      rintro ⟨c, _, _, _, hcall⟩
      show (State.ret ctx p.2).closed = true
      simp only [State.closed, hctx, callBuiltin_closed cfg.sem b args p.2 hw hcall, Bool.and_self]
    | _ => intro _; trivial
  · rw [if_neg hl]
    show (State.ret ctx (.builtin b forces args)).closed = true
    simp only [State.closed, hctx, Value.closed, hw, Bool.and_self]

theorem caseOnConst_fields_closed (c : Const) (tag : Nat) (fields : List Value) (m : Option Nat)
    (h : caseOnConst c = some (tag, fields, m)) : Value.closedList fields = true :=
  (closedList_iff fields).2 fun v hv => by obtain ⟨c', rfl⟩ := caseOnConst_fields c tag fields m h v hv; rfl

theorem applyEvaluate_closed (cfg : Config) (a : Acct) (ctx : Ctx) (fn arg : Value)
    (hctx : ctx.all Frame.closed = true) (hfn : fn.closed = true) (harg : arg.closed = true) :
    StepClosed (.ofOutcome (applyEvaluate cfg a ctx fn arg)) := by
  cases fn with
  | lam n body env =>
    simp only [Value.closed, Bool.and_eq_true] at hfn
    simp [applyEvaluate, StepResult.ofOutcome, StepClosed, State.closed, hctx, closedList_append, hfn.1, hfn.2,
      Value.closedList, harg]
  | builtin b forces args =>
    simp only [Value.closed] at hfn
    simp only [applyEvaluate]
    split
    · exact builtinApp_closed cfg a ctx b forces (args ++ [arg]) hctx
        (by simp [closedList_append, hfn, Value.closedList, harg])
    · trivial
  | _ => trivial

theorem forceEvaluate_closed (cfg : Config) (a : Acct) (ctx : Ctx) (v : Value)
    (hctx : ctx.all Frame.closed = true) (hv : v.closed = true) :
    StepClosed (.ofOutcome (forceEvaluate cfg a ctx v)) := by
  cases v with
  | delay body env =>
    simp only [Value.closed, Bool.and_eq_true] at hv
    simp [forceEvaluate, StepResult.ofOutcome, StepClosed, State.closed, hctx, hv.1, hv.2]
  | builtin b forces args =>
    simp only [Value.closed] at hv
    simp only [forceEvaluate]
    split
    · exact builtinApp_closed cfg a ctx b (forces + 1) args hctx hv
    · trivial
  | _ => trivial

theorem compute_closed (sem : Sem) (den : Builtin → List Value → Res Value) (ctx : Ctx) (env : List Value)
    (t : NTerm) (s' : State) (hc : (State.compute ctx env t).closed = true)
    (h : Spec.step sem den (.compute ctx env t) = .next s') : s'.closed = true := by
  simp only [State.closed, Bool.and_eq_true] at hc
  obtain ⟨⟨hctx, henv⟩, ht⟩ := hc
  cases t with
  | var n =>
    simp only [Spec.step] at h
    split at h
    · rename_i v hv
      cases h
      simp [State.closed, hctx, (closedList_iff env).1 henv v (Spec.lookup_mem hv)]
    · cases h
  | constr tag fields =>
    simp only [Term.closedAt] at ht
    cases fields with
    | nil => cases h; simp [State.closed, hctx, Value.closed, Value.closedList]
    | cons m ms =>
      simp only [Term.closedAtList, Bool.and_eq_true] at ht
      cases h
      simp [State.closed, hctx, Frame.closed, henv, ht.1, ht.2, Value.closedList]
  | error => cases h
  | app f x =>
    simp only [Term.closedAt, Bool.and_eq_true] at ht
    cases h
    simp [State.closed, hctx, Frame.closed, henv, ht.1, ht.2]
  | case scrut branches =>
    simp only [Term.closedAt, Bool.and_eq_true] at ht
    cases h
    simp [State.closed, hctx, Frame.closed, henv, ht.1, ht.2]
  | _ =>
    simp only [Term.closedAt] at ht
    cases h
    simp [State.closed, hctx, Frame.closed, Value.closed, Value.closedList, henv, ht]

theorem step_closed (cfg : Config) (a : Acct) (s : State) (hc : s.closed = true) : StepClosed (step cfg a s) := by
  cases s with
  | compute ctx env t =>
    obtain ⟨o, hspec, himpl⟩ := compute_lockstep cfg.sem (denotation cfg.sem) ctx env t
    rw [step, himpl]
    cases chargeStep cfg a (termKind t) with
    | ok a1 =>
      cases o with
      | none => trivial
      | some s' => exact compute_closed _ _ ctx env t s' hc hspec
    | _ => trivial
  | ret ctx v =>
    simp only [State.closed, Bool.and_eq_true] at hc
    obtain ⟨hctx, hv⟩ := hc
    cases ctx with
    | nil =>
      rw [step_ret_nil]
      cases flush cfg a with
      | ok a' => exact valueAsTerm_closed v hv
      | _ => trivial
    | cons fr ctx =>
      simp only [List.all_cons, Bool.and_eq_true] at hctx
      obtain ⟨hfr, hctx⟩ := hctx
      rw [step]
      cases fr with
      | force => exact forceEvaluate_closed cfg a ctx v hctx hv
      | awaitFunTerm argEnv arg =>
        simp only [Frame.closed, Bool.and_eq_true] at hfr
        simp [returnStep, StepResult.ofOutcome, StepClosed, State.closed, hctx, Frame.closed, hv, hfr.1, hfr.2]
      | awaitArg fn => exact applyEvaluate_closed cfg a ctx fn v hctx hfr hv
      | awaitFunValue arg => exact applyEvaluate_closed cfg a ctx v arg hctx hv hfr
      | constr env tag todo done =>
        simp only [Frame.closed, Bool.and_eq_true] at hfr
        obtain ⟨⟨henv, htodo⟩, hdone⟩ := hfr
        cases todo with
        | nil =>
          simp [returnStep, StepResult.ofOutcome, StepClosed, State.closed, hctx, Value.closed, closedList_append, hdone,
            Value.closedList, hv]
        | cons m ms =>
          simp only [Term.closedAtList, Bool.and_eq_true] at htodo
          simp [returnStep, StepResult.ofOutcome, StepClosed, State.closed, hctx, Frame.closed, henv, htodo.1, htodo.2,
            closedList_append, hdone, Value.closedList, hv]
      | cases env branches =>
        simp only [Frame.closed, Bool.and_eq_true] at hfr
        obtain ⟨o, _, himpl, hsel⟩ := cases_lockstep cfg (denotation cfg.sem) a ctx env branches v
        rw [himpl]
        cases o with
        | none => trivial
        | some p =>
          have hf : Value.closedList p.2 = true := by
            rcases (hsel p rfl).2 with ⟨tag, rfl⟩ | ⟨c, tag, m, rfl, hco⟩
            · exact hv
            · exact caseOnConst_fields_closed c tag p.2 m hco
          show (State.compute (Spec.pushArgs p.2 ctx) env p.1).closed = true
          simp only [State.closed, pushArgs_all Frame.closed p.2 ctx ((closedList_iff p.2).1 hf) hctx, hfr.1,
            (closedAtList_iff env.length branches).1 hfr.2 p.1 (hsel p rfl).1, Bool.and_self]

end AikenVerif
