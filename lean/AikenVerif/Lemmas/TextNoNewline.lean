import AikenVerif.Lemmas.TextTerm
/-! C15: no token of the printer's output contains a raw new-line (so line-based post-processing of the
rendered text — the "blank white-space-only lines" hack of `to_pretty` — cannot alter a token).
`print…_ok` is the model's `toksOk` of that printer's output, not the well-formedness `…Ok`. -/
namespace AikenVerif.Text
open AikenVerif.Gen (Builtin)
open AikenVerif.Gen.TextTables

@[simp] theorem toksOk_nil : toksOk [] = true := rfl
@[simp] theorem toksOk_cons (t : Token) (l : List Token) : toksOk (t :: l) = (tokOk t && toksOk l) := by
  simp [toksOk]
@[simp] theorem toksOk_append (a b : List Token) : toksOk (a ++ b) = (toksOk a && toksOk b) := by
  simp [toksOk]

theorem isIdentChar_ne_nl {c : Char} (h : isIdentChar c = true) : c ≠ '\n' := by
  rintro rfl; revert h; decide

theorem cleanWord_of_forall_ne {l : List Char} (h : ∀ c ∈ l, c ≠ '\n') : cleanWord l = true := by
  simp only [cleanWord, List.contains_eq_mem, Bool.not_eq_true', decide_eq_false_iff_not]
  intro hm; exact h _ hm rfl

theorem cleanWord_of_isIdent {w : List Char} (h : isIdent w = true) : cleanWord w = true := by
  simp only [isIdent, Bool.and_eq_true, List.all_eq_true] at h
  exact cleanWord_of_forall_ne fun c hc => isIdentChar_ne_nl (h.2 c hc)

theorem cleanWord_natChars (n : Nat) : cleanWord (natChars n) = true :=
  cleanWord_of_forall_ne fun c hc => ne_of_isDigit (natChars_all_digit n c hc) rfl

theorem cleanWord_cons (c : Char) (l : List Char) : cleanWord (c :: l) = true ↔ '\n' ≠ c ∧ cleanWord l = true := by
  simp only [cleanWord, List.contains_cons, Bool.not_or, Bool.and_eq_true, Bool.not_eq_true', beq_eq_false_iff_ne]

theorem cleanWord_append (a b : List Char) : cleanWord (a ++ b) = true ↔ cleanWord a = true ∧ cleanWord b = true := by
  simp only [cleanWord, List.contains_append, Bool.not_or, Bool.and_eq_true]

theorem cleanWord_intChars (i : Int) : cleanWord (intChars i) = true := by
  cases i <;> simp [intChars, cleanWord_cons, cleanWord_natChars]

theorem cleanWord_hexChars (b : Bytes) : cleanWord (hexChars b) = true :=
  cleanWord_of_forall_ne fun c hc => isIdentChar_ne_nl (List.all_eq_true.1 (hexChars_all_ident b) c hc)

theorem cleanWord_blsWord (b : Bytes) : cleanWord (blsWord b) = true := by
  simp [blsWord, cleanWord_cons, cleanWord_hexChars]

theorem cleanWord_escape (s : List Char) : cleanWord (escape s) = true := by
  simp only [cleanWord, List.contains_eq_mem, Bool.not_eq_true', decide_eq_false_iff_not]
  exact escape_no_newline s

theorem cleanWord_versionChars (v : Nat × Nat × Nat) : cleanWord (versionChars v) = true := by
  simp [versionChars, cleanWord_append, cleanWord_cons, cleanWord_natChars]

theorem cleanWord_kwData : ∀ k : DataKind, cleanWord (kwData k) = true := by intro k; cases k <;> decide
theorem cleanWord_kwCon : ∀ k : ConKind, cleanWord (kwCon k) = true := by intro k; cases k <;> decide
theorem cleanWord_kwTerm : ∀ k : TermKind, cleanWord (kwTerm k) = true := by intro k; cases k <;> decide
theorem cleanWord_tyDisplay : ∀ a : TyAtom, cleanWord (chars (tyDisplay a)) = true := by intro a; cases a <;> decide
theorem cleanWord_boolWord : ∀ b : Bool, cleanWord (boolWord b) = true := by intro b; cases b <;> decide
theorem cleanWord_display (b : Builtin) : cleanWord (chars b.display) = true := cleanWord_of_isIdent (isIdent_display b)
theorem cleanWord_keywords : cleanWord (chars tyListDisplay) = true ∧ cleanWord (chars tyPairDisplay) = true ∧
    cleanWord (chars programDisplay) = true := by decide

theorem cleanWord_name (n : Name) (h : validName n.text.toList = true) : cleanWord (BinderText.text n) = true := by
  simp only [validName, Bool.and_eq_true] at h
  exact cleanWord_of_isIdent h.1

theorem printTyL_ok (w : Layout) (t : Ty) : ∀ p, toksOk (printTyL w p t) = true := by
  induction t with
  | list t ih => intro p; cases h : w p <;> simp [printTyL, tokOk, cleanWord_keywords.1, ih, soft, h]
  | pair a b iha ihb => intro p; simp [printTyL, tokOk, cleanWord_keywords.2.1, iha, ihb]
  | _ => intro p; simp [printTyL, printTy, tokOk, cleanWord_tyDisplay]

mutual
  theorem printData_ok : (d : Data) → toksOk (printData d) = true
    | .constr tag fs => by simp [printData, tokOk, cleanWord_kwData, cleanWord_natChars, printDataList_ok fs]
    | .map es => by simp [printData, tokOk, cleanWord_kwData, printDataPairs_ok es]
    | .list xs => by simp [printData, tokOk, cleanWord_kwData, printDataList_ok xs]
    | .int n => by simp [printData, tokOk, cleanWord_kwData, cleanWord_intChars]
    | .bytes b => by simp [printData, tokOk, cleanWord_kwData, cleanWord_hexChars]
  theorem printDataList_ok : (ds : List Data) → toksOk (printDataList ds) = true
    | [] => by simp [printDataList]
    | [d] => by simp [printDataList, printData_ok d]
    | d :: e :: ds => by simp [printDataList, sepTokens, tokOk, printData_ok d, printDataList_ok (e :: ds)]
  theorem printDataPairs_ok : (es : List (Data × Data)) → toksOk (printDataPairs es) = true
    | [] => by simp [printDataPairs]
    | [(k, v)] => by simp [printDataPairs, sepTokens, tokOk, printData_ok k, printData_ok v]
    | (k, v) :: e :: es => by
      simp [printDataPairs, sepTokens, tokOk, printData_ok k, printData_ok v, printDataPairs_ok (e :: es)]
end

mutual
  theorem printElem_ok : (c : Const) → toksOk (printElem c) = true
    | .integer _ | .bytestring _ | .string _ | .unit | .bool _ | .g1 _ | .g2 _ | .ml _ => by
      simp [printElem, tokOk, cleanWord_intChars, cleanWord_hexChars, cleanWord_escape, cleanWord_boolWord,
        cleanWord_blsWord]
    | .list _ xs => by simp [printElem, tokOk, printElems_ok xs]
    | .pair _ _ x y => by simp [printElem, tokOk, sepTokens, printElem_ok x, printElem_ok y]
    | .data d => by simp [printElem, printData_ok d]
  theorem printElems_ok : (cs : List Const) → toksOk (printElems cs) = true
    | [] => by simp [printElems]
    | [c] => by simp [printElems, printElem_ok c]
    | c :: d :: cs => by simp [printElems, sepTokens, tokOk, printElem_ok c, printElems_ok (d :: cs)]
end

theorem printConstL_ok (w : Layout) (p : List Nat) (c : Const) : toksOk (printConstL w p c) = true := by
  cases c <;> simp [printConstL, printConst, tokOk, cleanWord_kwCon, cleanWord_intChars, cleanWord_hexChars,
    cleanWord_escape, cleanWord_boolWord, cleanWord_blsWord, printTyL_ok, printElems_ok, printElem_ok, printData_ok,
    sepTokens]

theorem soft_ok (b : Bool) : toksOk (soft b) = true := by cases b <;> simp [soft, tokOk]

theorem printTermL_ok (w : Layout) : (∀ t p, termOk t = true → toksOk (printTermL w p t) = true) ∧
    (∀ ts p i, termsOk ts = true → toksOk (printTermsL w p i ts) = true) := by
  apply term_ind <;> intros <;>
    simp_all [termOk, termsOk, printTermL, printTermsL, tokOk, cleanWord_kwTerm, cleanWord_natChars, cleanWord_display,
      printConstL_ok, soft_ok, cleanWord_name]

theorem printTermsL_ok (w : Layout) : (ts : List (Term Name)) → ∀ p i, termsOk ts = true →
      toksOk (printTermsL w p i ts) = true :=
  (printTermL_ok w).2

theorem printProgramTokensL_ok (w : Layout) (p : Program Name) (h : programOk p = true) :
    toksOk (printProgramTokensL w p) = true := by
  simp [printProgramTokensL, tokOk, cleanWord_keywords.2.2, cleanWord_versionChars,
    (printTermL_ok w).1 p.term _ (programOk_term h), soft_ok]

end AikenVerif.Text
