import AikenVerif.Lemmas.FlatPrim
/-!
M-FLAT round trips: byte strings, UTF-8, generic lists, type tags and the tag lists of constants.
-/
namespace AikenVerif.Flat
open AikenVerif.Gen.FlatTags

theorem blockBits_nil : blockBits [] = natBits 8 0 := by rw [blockBits]; rfl

theorem blockBits_cons (b : Bytes) (h : b ≠ []) :
    blockBits b = natBits 8 (min 255 b.length) ++ bitsOfBytes (b.take 255) ++ blockBits (b.drop 255) := by
  rw [blockBits, dif_neg h]

theorem blockBits_length_pos (b : Bytes) : 8 ≤ (blockBits b).length := by
  by_cases h : b = []
  · subst h; rw [blockBits_nil]; simp
  · rw [blockBits_cons b h]; simp only [List.length_append, natBits_length]; omega

theorem decBlocksGo_blockBits : ∀ (f : Nat) (b : Bytes) (n : Nat) (rest : Bits),
    (blockBits b).length < 8 * f →
    decBlocksGo f ⟨n, blockBits b ++ rest⟩ = .ok (b, ⟨n + (blockBits b).length, rest⟩)
  | 0, b, n, rest, h => by omega
  | f + 1, b, n, rest, h => by
    by_cases hb : b = []
    · subst hb
      rw [blockBits_nil]
      simp only [decBlocksGo, Dec.bind, decBits8_natBits 0 n rest (by omega), if_true, natBits_length]
    · rw [blockBits_cons b hb] at h ⊢
      have hmin : min 255 b.length ≠ 0 := by
        have := List.length_pos_iff.mpr hb; omega
      have hc : (bitsOfBytes (b.take 255)).length = 8 * min 255 b.length := by simp
      have hpos := blockBits_length_pos (b.drop 255)
      simp only [List.length_append, natBits_length, hc] at h ⊢
      have ih := decBlocksGo_blockBits f (b.drop 255) (n + 8 + 8 * min 255 b.length) rest (by omega)
      have hlong : ¬ (bitsOfBytes (b.take 255) ++ (blockBits (b.drop 255) ++ rest)).length
          < 8 * (min 255 b.length + 1) := by
        simp only [List.length_append, hc]; omega
      simp only [decBlocksGo, Dec.bind, List.append_assoc, decBits8_natBits (min 255 b.length) n _ (by omega),
        hmin, if_false, hlong, List.take_left' hc, List.drop_left' hc, ih, bytesOfBits_bitsOfBytes,
        List.take_append_drop]
      simp only [Nat.add_assoc]

theorem rt_bytes (b : Bytes) : RT (bytesE b) decBytes b := by
  intro n rest
  have hfuel : (blockBits b).length < 8 * (((blockBits b).length + rest.length) / 8 + 1) := by omega
  simp only [bytesE, Enc.seq, Enc.lit, List.append_assoc, decBytes, Dec.bind, rt_filler n _, filler_aligned n,
    ne_eq, not_true_eq_false, if_false, decBlocksGo_blockBits _ b _ rest hfuel, List.length_append, Nat.add_assoc]

theorem utf8Dec_utf8Enc (s : String) : utf8Dec (utf8Enc s) = some s := by
  unfold utf8Dec utf8Enc
  have h : (ByteArray.mk s.toUTF8.data.toList.toArray) = s.toUTF8 := by
    cases s.toUTF8; simp
  rw [h]
  simp [String.fromUTF8?, s.isValidUTF8, String.fromUTF8]

theorem rt_utf8 (s : String) : RT (bytesE (utf8Enc s)) decUtf8 s :=
  RT.bind_pure (rt_bytes (utf8Enc s)) (by rw [utf8Dec_utf8Enc])

theorem listE_length_ge {α : Type} (e : α → Enc) : ∀ (xs : List α) (n : Nat), xs.length < (listE e xs n).length
  | [], n => Nat.one_pos
  | x :: xs, n => by
    have := listE_length_ge e xs (n + 1 + (e x (n + 1)).length)
    simp only [listE, Enc.seq_length, Enc.lit_apply, List.length_cons, List.length_nil, Nat.zero_add] at this ⊢
    omega

/-- `decode_list_with` against `encode_list_with` -/
theorem rt_list {α : Type} (e : α → Enc) (d : Dec α) : ∀ (xs : List α) (k : Nat), xs.length < k →
    (∀ x ∈ xs, RT (e x) d x) → RT (listE e xs) (decList d k) xs
  | _, 0, hk, _ => by omega
  | [], k + 1, _, _ => RT.bind_pure (rt_bit false) rfl
  | x :: xs, k + 1, hk, hx =>
    have ih := rt_list e d xs k (Nat.lt_of_succ_lt_succ hk) (fun y hy => hx y (List.mem_cons_of_mem _ hy))
    RT.bind (rt_bit true) (RT.bind (hx x List.mem_cons_self) (RT.bind_pure ih rfl))

/-- the decoders that run the list loop take the number of remaining bits + 1 as its bound -/
theorem rt_list_bits {α : Type} {e : α → Enc} {d : Dec α} {xs : List α} (hx : ∀ x ∈ xs, RT (e x) d x)
    (n : Nat) (rest : Bits) : RT (listE e xs) (decList d ((listE e xs n ++ rest).length + 1)) xs := by
  have := listE_length_ge e xs n
  exact rt_list e d xs _ (by rw [List.length_append]; omega) hx

theorem rt_tagList (tags : List Nat) (h : ∀ t ∈ tags, t < 2 ^ constTagWidth) :
    RT (tagListE tags) decTagList tags :=
  -- the first `n rest` fixes the loop bound `decTagList` takes from its input, the second runs `RT` on that input
  fun n rest => rt_list_bits (fun t ht => rt_bits constTagWidth t (h t ht)) n rest n rest

theorem stripPrefix_append (p r : List Nat) : stripPrefix p (p ++ r) = some r := by
  induction p with
  | nil => rfl
  | cons x xs ih => simp [stripPrefix, ih]

theorem matchTypeArm_enc (c : TyCtor) (r : List Nat) :
    matchTypeArm typeDecArms (typeEncTags c ++ r) = some (c, r) := by
  cases c <;> rfl

/-- `decode_type` against `encode_type` -/
theorem decTy_tyTags : ∀ (t : Ty) (f : Nat) (r : List Nat), (tyTags t).length < f →
    decTy f (tyTags t ++ r) = .ok (t, r)
  | t, 0, r, h => by omega
  | .list t, f + 1, r, h => by
    have ih := decTy_tyTags t f r (by simp only [tyTags, List.length_append, typeEncTags, List.length_cons] at h; omega)
    simp only [tyTags, List.append_assoc, decTy, matchTypeArm_enc, ih]
  | .pair a b, f + 1, r, h => by
    simp only [tyTags, List.length_append, typeEncTags, List.length_cons] at h
    have iha := decTy_tyTags a f (tyTags b ++ r) (by omega)
    have ihb := decTy_tyTags b f r (by omega)
    simp only [tyTags, List.append_assoc, decTy, matchTypeArm_enc, iha, ihb]
  | .integer, f + 1, r, _ | .bytestring, f + 1, r, _ | .string, f + 1, r, _ | .unit, f + 1, r, _
  | .bool, f + 1, r, _ | .data, f + 1, r, _ | .g1, f + 1, r, _ | .g2, f + 1, r, _ | .ml, f + 1, r, _ => by
    simp only [tyTags, decTy, matchTypeArm_enc]

theorem typeEncTags_lt (c : TyCtor) : ∀ x ∈ typeEncTags c, x < 2 ^ constTagWidth := by
  cases c <;> decide

theorem constEncTags_eq (c : TyCtor) : constEncTags c = typeEncTags c := by cases c <;> rfl

theorem tyTags_lt : ∀ (t : Ty), ∀ x ∈ tyTags t, x < 2 ^ constTagWidth
  | .list t => by
    simp only [tyTags, List.forall_mem_append]
    exact ⟨typeEncTags_lt _, tyTags_lt t⟩
  | .pair a b => by
    simp only [tyTags, List.forall_mem_append]
    exact ⟨⟨typeEncTags_lt _, tyTags_lt a⟩, tyTags_lt b⟩
  | .integer | .bytestring | .string | .unit | .bool | .data | .g1 | .g2 | .ml => typeEncTags_lt _

theorem constTags_lt (t : Ty) : ∀ x ∈ constTags t, x < 2 ^ constTagWidth := by
  cases t with
  | list t =>
    simp only [constTags, constEncTags_eq, List.forall_mem_append]
    exact ⟨typeEncTags_lt _, tyTags_lt t⟩
  | pair a b =>
    simp only [constTags, constEncTags_eq, List.forall_mem_append]
    exact ⟨⟨typeEncTags_lt _, tyTags_lt a⟩, tyTags_lt b⟩
  | _ =>
    simp only [constTags, constEncTags_eq]
    exact typeEncTags_lt _

/-- can a constant of this type be a top-level constant (`impl Decode for Constant`
has an `Ok` arm for its tag list) -/
def topTy : Ty → Bool
  | .g1 | .g2 | .ml => false
  | _ => true

theorem decConstTy_constTags (t : Ty) (h : topTy t = true) : decConstTy (constTags t) = .ok t := by
  cases t with
  | list t =>
    have hm : matchConstArm constDecArms (constEncTags .list ++ tyTags t) = some (some .list, tyTags t) := rfl
    have hd := decTy_tyTags t ((tyTags t).length + 1) [] (Nat.lt_succ_self _)
    rw [List.append_nil] at hd
    simp only [constTags, decConstTy, hm, hd]
  | pair a b =>
    have hm : matchConstArm constDecArms (constEncTags .pair ++ tyTags a ++ tyTags b)
        = some (some .pair, tyTags a ++ tyTags b) := rfl
    have hda := decTy_tyTags a ((tyTags a ++ tyTags b).length + 1) (tyTags b)
      (by simp only [List.length_append]; omega)
    have hdb := decTy_tyTags b ((tyTags b).length + 1) [] (Nat.lt_succ_self _)
    rw [List.append_nil] at hdb
    simp only [constTags, decConstTy, hm, hda, hdb]
  | g1 | g2 | ml => cases h
  | _ => rfl

end AikenVerif.Flat
