import AikenVerif.Lemmas.MatchBasic
/-!
`collect_ctors` / `is_complete` (C07): the `BTreeMap` of seen constructor names, the count
comparison `num_seen == alts.len()`, and the "fresh head" lemma: when the first column is
not complete there is a well-typed value that no non-wildcard head pattern matches
(an unseen constructor, or a literal of size `freshSize`).
-/
namespace AikenVerif.Match

def keys (l : List (Nat × Alts)) : List Nat := l.map (·.1)

variable {sg : Sig} {M : Matrix} {t : Nat} {t0 : Ty} {ts : List Ty} {d : Decl}

theorem ctorsInsert_mem {k : Nat} {a : Alts} {l : List (Nat × Alts)} {kv : Nat × Alts}
    (h : kv ∈ ctorsInsert k a l) : kv = (k, a) ∨ kv ∈ l := by
  induction l with
  | nil => simpa [ctorsInsert] using h
  | cons x xs ih =>
    obtain ⟨k', a'⟩ := x
    simp only [ctorsInsert] at h
    split at h
    · simpa using h
    · split at h
      · simp only [List.mem_cons] at h ⊢
        exact h.imp_right Or.inr
      · simp only [List.mem_cons] at h ⊢
        rcases h with h | h
        · exact Or.inr (Or.inl h)
        · exact (ih h).imp_right Or.inr

theorem ctorsInsert_keys {k : Nat} {a : Alts} {l : List (Nat × Alts)} (x : Nat) :
    x ∈ keys (ctorsInsert k a l) ↔ x = k ∨ x ∈ keys l := by
  induction l with
  | nil => simp [ctorsInsert, keys]
  | cons y ys ih =>
    obtain ⟨k', a'⟩ := y
    simp only [keys, List.map_cons, List.mem_cons] at ih ⊢
    simp only [ctorsInsert]
    split
    · simp only [List.map_cons, List.mem_cons]
    · split
      · rename_i e; simp only [List.map_cons, List.mem_cons, e, or_self_left]
      · simp only [List.map_cons, List.mem_cons, ih, or_left_comm]

theorem ctorsInsert_sorted {k : Nat} {a : Alts} {l : List (Nat × Alts)}
    (h : (keys l).Pairwise (· < ·)) : (keys (ctorsInsert k a l)).Pairwise (· < ·) := by
  induction l with
  | nil => simp [ctorsInsert, keys]
  | cons y ys ih =>
    obtain ⟨k', a'⟩ := y
    have hy : ∀ x ∈ keys ys, k' < x := (List.pairwise_cons.mp h).1
    simp only [ctorsInsert]
    split
    · rename_i hlt
      refine List.pairwise_cons.mpr ⟨?_, h⟩
      intro x hx
      rcases List.mem_cons.mp hx with e | hx
      · exact e ▸ hlt
      · exact Nat.lt_trans hlt (hy x hx)
    · split
      · rename_i e; subst e; exact h
      · refine List.pairwise_cons.mpr ⟨?_, ih (List.pairwise_cons.mp h).2⟩
        intro x hx
        show k' < x
        rcases (ctorsInsert_keys x).mp hx with e | e
        · omega
        · exact hy x e

theorem collectCtors_foldl_sorted (M : Matrix) (acc : List (Nat × Alts))
    (hs : (keys acc).Pairwise (· < ·)) : (keys (M.foldl ctorsStep acc)).Pairwise (· < ·) := by
  induction M generalizing acc with
  | nil => exact hs
  | cons r M ih =>
    apply ih
    match r with
    | .ctor c a _ :: _ => exact ctorsInsert_sorted hs
    | [] | .wild :: _ | .lit _ :: _ => exact hs

theorem collectCtors_foldl_mem (M : Matrix) (acc : List (Nat × Alts)) {k : Nat} {a : Alts}
    (h : (k, a) ∈ M.foldl ctorsStep acc) : (k, a) ∈ acc ∨ ∃ args rest, (.ctor k a args :: rest) ∈ M := by
  induction M generalizing acc with
  | nil => exact Or.inl h
  | cons r M ih =>
    rcases ih _ h with h | ⟨args, rest, hr⟩
    · match r, h with
      | .ctor c a' args :: rest, h =>
        rcases ctorsInsert_mem h with e | h
        · cases e
          exact Or.inr ⟨args, rest, List.mem_cons_self⟩
        · exact Or.inl h
      | [], h | .wild :: _, h | .lit _ :: _, h => exact Or.inl h
    · exact Or.inr ⟨args, rest, List.mem_cons_of_mem _ hr⟩

theorem collectCtors_foldl_keys (M : Matrix) (acc : List (Nat × Alts)) {x : Nat}
    (h : x ∈ keys acc ∨ ∃ a args rest, (.ctor x a args :: rest) ∈ M) : x ∈ keys (M.foldl ctorsStep acc) := by
  induction M generalizing acc with
  | nil => simpa using h
  | cons r M ih =>
    apply ih
    rcases h with h | ⟨a, args, rest, hr⟩
    · left
      match r with
      | .ctor c a _ :: _ => exact (ctorsInsert_keys x).mpr (Or.inr h)
      | [] | .wild :: _ | .lit _ :: _ => exact h
    · rcases List.mem_cons.mp hr with rfl | hr
      · exact Or.inl ((ctorsInsert_keys x).mpr (Or.inl rfl))
      · exact Or.inr ⟨a, args, rest, hr⟩

theorem collectCtors_sorted (M : Matrix) : (keys (collectCtors M)).Pairwise (· < ·) :=
  collectCtors_foldl_sorted M [] List.Pairwise.nil

theorem mem_keys_collectCtors {c : Nat} {a : Alts} {args rest : List Pat}
    (h : (.ctor c a args :: rest) ∈ M) : c ∈ keys (collectCtors M) :=
  collectCtors_foldl_keys M [] (Or.inr ⟨a, args, rest, h⟩)

theorem collectCtors_mem (M : Matrix) {k : Nat} {a : Alts} (h : (k, a) ∈ collectCtors M) :
    ∃ args rest, (.ctor k a args :: rest) ∈ M :=
  (collectCtors_foldl_mem M [] h).resolve_left List.not_mem_nil

theorem collectCtors_typed (hM : Matrix.hasTy sg M (t0 :: ts) = true) {k : Nat} {a : Alts}
    (h : (k, a) ∈ collectCtors M) :
    ∃ t d tys, t0 = .data t ∧ sg[t]? = some d ∧ a = declAlts d ∧ lookupCtor k d = some tys := by
  obtain ⟨args, rest, hr⟩ := collectCtors_mem M h
  obtain ⟨t, d, tys, e1, hd, ha, hl, _⟩ :=
    Pat.hasTy_ctor (Pat.hasTyL_cons_cons.mp (Matrix.hasTy_mem hM hr)).1
  exact ⟨t, d, tys, e1, hd, ha, hl⟩

theorem freshFor_unseen {c : Nat} (h : c ∉ keys (collectCtors M)) (ws : List Val) :
    FreshFor M (.ctor c ws) := by
  intro p rest hr hp
  cases p with
  | wild => exact absurd rfl hp
  | lit l => simp [pmatch]
  | ctor c' a args =>
    have : c' ≠ c := fun e => h (e ▸ mem_keys_collectCtors hr)
    simp [pmatch, this]

theorem collectCtors_names (hM : Matrix.hasTy sg M (.data t :: ts) = true) (hd : sg[t]? = some d) :
    (keys (collectCtors M)).Nodup ∧ keys (collectCtors M) ⊆ d.map (·.1) := by
  refine ⟨(collectCtors_sorted M).imp (fun h => Nat.ne_of_lt h), ?_⟩
  intro x hx
  obtain ⟨⟨k, a⟩, hka, rfl⟩ := List.mem_map.mp hx
  obtain ⟨t', d', tys, e1, hd', _, hl⟩ := collectCtors_typed hM hka
  cases e1
  rw [hd] at hd'; cases hd'
  exact lookupCtor_name_mem hl

theorem collectCtors_length_le (hM : Matrix.hasTy sg M (.data t :: ts) = true) (hd : sg[t]? = some d) :
    (collectCtors M).length ≤ d.length := by
  obtain ⟨hnd, hsub⟩ := collectCtors_names hM hd
  simpa [keys] using hnd.length_le_of_subset hsub

theorem exists_unseen (hM : Matrix.hasTy sg M (.data t :: ts) = true) (hd : sg[t]? = some d)
    (hdn : (d.map (·.1)).Nodup) (hne : (collectCtors M).length ≠ d.length) :
    ∃ c tys, lookupCtor c d = some tys ∧ c ∉ keys (collectCtors M) := by
  -- take the declared names that the column lacks: were there none, the two lists of distinct
  -- names would contain each other and have the same length
  cases hun : (d.map (·.1)).filter (fun c => decide (c ∉ keys (collectCtors M))) with
  | cons c _ =>
    obtain ⟨hc, hnot⟩ := List.mem_filter.mp (hun ▸ List.mem_cons_self)
    obtain ⟨tys, hl⟩ := mem_name_lookup hc
    exact ⟨c, tys, hl, of_decide_eq_true hnot⟩
  | nil =>
    have hsup : d.map (·.1) ⊆ keys (collectCtors M) := fun c hc =>
      Decidable.of_not_not fun hnot => List.filter_eq_nil_iff.mp hun c hc (decide_eq_true hnot)
    have h1 := collectCtors_length_le hM hd
    have h2 := hdn.length_le_of_subset hsup
    simp only [keys, List.length_map] at h2
    omega

/-- literals of different sizes are different: the magnitude of an Int, the length of a ByteArray -/
def Lit.size : Lit → Nat
  | .int i => i.toNat
  | .bytes b => b.length

/-- One more than the largest literal size in column 0: a literal of this size occurs in no head. -/
def freshSize : Matrix → Nat
  | [] => 0
  | (.lit l :: _) :: M => max (l.size + 1) (freshSize M)
  | _ :: M => freshSize M

theorem freshSize_gt {l : Lit} {rest : Row} (h : (.lit l :: rest) ∈ M) :
    l.size < freshSize M := by
  induction M with
  | nil => cases h
  | cons r M ih =>
    rcases List.mem_cons.mp h with rfl | h
    · exact Nat.lt_of_lt_of_le (Nat.lt_succ_self _) (Nat.le_max_left _ _)
    · have := ih h
      match r with
      | .lit l' :: _ => exact Nat.lt_of_lt_of_le this (Nat.le_max_right _ _)
      | [] | .wild :: _ | .ctor _ _ _ :: _ => exact this

theorem freshFor_lit {l0 : Lit} (h : l0.size = freshSize M) : FreshFor M (.lit l0) := by
  intro p rest hr hp
  cases p with
  | wild => exact absurd rfl hp
  | ctor c a args => rfl
  | lit l =>
    have := freshSize_gt hr
    simp only [pmatch, decide_eq_false_iff_not]
    rintro rfl
    omega

theorem fresh_head {inh : List Val} (hs : Sig.ok sg = true) (hi : inhOk sg inh = true)
    (ht0 : Ty.ok sg t0 = true) (hM : Matrix.hasTy sg M (t0 :: ts) = true) (hc : isComplete M = none) :
    ∃ w, Val.hasTy sg w t0 = true ∧ FreshFor M w := by
  cases t0 with
  | int => exact ⟨.lit (.int (freshSize M)), rfl, freshFor_lit (Int.toNat_natCast _)⟩
  | bytes => exact ⟨.lit (.bytes (List.replicate (freshSize M) 0)), rfl, freshFor_lit List.length_replicate⟩
  | data t =>
    simp only [Ty.ok, decide_eq_true_eq] at ht0
    obtain ⟨d, hd⟩ : ∃ d, sg[t]? = some d := ⟨sg[t], by simp [ht0]⟩
    obtain ⟨hdn, hfields⟩ := Sig.ok_get hs hd
    -- some constructor of `d` is not in the map: any instance of it will do
    suffices ∃ c tys, lookupCtor c d = some tys ∧ c ∉ keys (collectCtors M) by
      obtain ⟨c, tys, hl, hnot⟩ := this
      exact ⟨.ctor c (tys.map (witness inh)),
        Val.hasTy_ctor_intro hd hl (witnessL_hasTy hi (hfields c tys hl)), freshFor_unseen hnot _⟩
    unfold isComplete at hc
    split at hc
    · rename_i hnil
      obtain ⟨c, vs, d', tys, _, hd', hl, _⟩ :=
        Val.hasTy_data (witness_hasTy hi (t := .data t) (by simp [Ty.ok, ht0]))
      rw [hd] at hd'; cases hd'
      exact ⟨c, tys, hl, by simp [hnil, keys]⟩
    · rename_i k alts rest hcons
      split at hc
      · cases hc
      · rename_i hne
        obtain ⟨t', d', _, e1, hd', ha, _⟩ := collectCtors_typed hM (hcons ▸ List.mem_cons_self)
        cases e1
        rw [hd] at hd'; cases hd'
        apply exists_unseen hM hd hdn
        rw [hcons]
        simpa [ha, declAlts] using hne

end AikenVerif.Match
