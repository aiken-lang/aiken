import AikenVerif.Lemmas.MatchUseful
/-!
`collect_missing_patterns` (C07): each reported row has a well-typed instance that no row of the
matrix matches (all instances, when the matrix has no literal pattern), and an empty report means
that the all-wildcard vector is not useful, hence that the matrix is exhaustive.
-/
namespace AikenVerif.Match

theorem collectMissing_empty {M : Matrix} (h : M.isEmpty = true) (n : Nat) :
    collectMissing M n = [wilds n] := by
  unfold collectMissing; simp [h]

theorem collectMissing_zero {M : Matrix} (h : ¬ M.isEmpty = true) : collectMissing M 0 = [] := by
  unfold collectMissing; simp [h]

theorem collectMissing_no_ctor {M : Matrix} {n : Nat} (h : ¬ M.isEmpty = true) (hn : ¬ n = 0)
    (hc : collectCtors M = []) :
    collectMissing M n = (collectMissing (specWild M) (n - 1)).map (fun r => Pat.wild :: r) := by
  rw [collectMissing, if_neg h, if_neg hn]
  split
  · rfl
  · rename_i k alts rest h'; rw [hc] at h'; cases h'

theorem collectMissing_unseen {M : Matrix} {n : Nat} (h : ¬ M.isEmpty = true) (hn : ¬ n = 0)
    {k : Nat} {alts : Alts} {rest : List (Nat × Alts)}
    (hc : collectCtors M = (k, alts) :: rest) (hlt : rest.length + 1 < alts.length) :
    collectMissing M n =
      (collectMissing (specWild M) (n - 1)).flatMap (fun r =>
        (alts.filterMap (isMissing alts ((k, alts) :: rest))).map (fun p => p :: r)) := by
  rw [collectMissing, if_neg h, if_neg hn]
  split
  · rename_i h'; rw [hc] at h'; cases h'
  · rename_i k' alts' rest' h'
    rw [hc] at h'; cases h'
    simp only [hlt, if_true]

theorem collectMissing_all_seen {M : Matrix} {n : Nat} (h : ¬ M.isEmpty = true) (hn : ¬ n = 0)
    {k : Nat} {alts : Alts} {rest : List (Nat × Alts)}
    (hc : collectCtors M = (k, alts) :: rest) (hlt : ¬ rest.length + 1 < alts.length) :
    collectMissing M n =
      alts.flatMap (fun alt =>
        (collectMissing (specCtor alt.1 alt.2 M) (alt.2 + n - 1)).map (recoverCtor alts alt.1 alt.2)) := by
  rw [collectMissing, if_neg h, if_neg hn]
  split
  · rename_i h'; rw [hc] at h'; cases h'
  · rename_i k' alts' rest' h'
    rw [hc] at h'; cases h'
    simp only [hlt, if_false]

theorem isComplete_none_of_nil {M : Matrix} (hc : collectCtors M = []) : isComplete M = none := by
  unfold isComplete; rw [hc]

theorem isComplete_none_of_lt {M : Matrix} {k : Nat} {alts : Alts} {rest : List (Nat × Alts)}
    (hc : collectCtors M = (k, alts) :: rest) (hlt : rest.length + 1 < alts.length) :
    isComplete M = none := by
  unfold isComplete; rw [hc]
  simp only
  rw [if_neg (by omega)]

theorem isMissing_some {alts : Alts} {ctors : List (Nat × Alts)} {alt : Nat × Nat} {q : Pat}
    (h : isMissing alts ctors alt = some q) :
    q = .ctor alt.1 alts (wilds alt.2) ∧ alt.1 ∉ keys ctors := by
  unfold isMissing at h
  split at h
  · cases h
  · rename_i hn
    cases h
    refine ⟨rfl, fun hk => hn ?_⟩
    obtain ⟨kv, hkv, e⟩ := List.mem_map.mp hk
    exact List.any_eq_true.mpr ⟨kv, hkv, by simp [e]⟩

theorem isMissing_of_unseen {alts : Alts} {ctors : List (Nat × Alts)} {alt : Nat × Nat}
    (h : alt.1 ∉ keys ctors) : isMissing alts ctors alt = some (.ctor alt.1 alts (wilds alt.2)) := by
  unfold isMissing
  rw [if_neg]
  intro hany
  obtain ⟨kv, hkv, e⟩ := List.any_eq_true.mp hany
  exact h (List.mem_map.mpr ⟨kv, hkv, by simpa using e⟩)

theorem mem_collectMissing_no_ctor {M : Matrix} {n : Nat} (h : ¬ M.isEmpty = true) (hn : ¬ n = 0)
    (hc : collectCtors M = []) {p : Row} (hp : p ∈ collectMissing M n) :
    ∃ p' ∈ collectMissing (specWild M) (n - 1), p = .wild :: p' := by
  rw [collectMissing_no_ctor h hn hc] at hp
  obtain ⟨p', hp', rfl⟩ := List.mem_map.mp hp
  exact ⟨p', hp', rfl⟩

theorem mem_collectMissing_unseen {M : Matrix} {n : Nat} (h : ¬ M.isEmpty = true) (hn : ¬ n = 0)
    {k : Nat} {alts : Alts} {rest : List (Nat × Alts)}
    (hc : collectCtors M = (k, alts) :: rest) (hlt : rest.length + 1 < alts.length)
    {p : Row} (hp : p ∈ collectMissing M n) :
    ∃ p' ∈ collectMissing (specWild M) (n - 1), ∃ alt ∈ alts,
      alt.1 ∉ keys (collectCtors M) ∧ p = .ctor alt.1 alts (wilds alt.2) :: p' := by
  rw [collectMissing_unseen h hn hc hlt] at hp
  simp only [List.mem_flatMap, List.mem_map, List.mem_filterMap] at hp
  obtain ⟨p', hp', q, ⟨alt, halt, hq⟩, rfl⟩ := hp
  obtain ⟨rfl, hnk⟩ := isMissing_some hq
  exact ⟨p', hp', alt, halt, hc ▸ hnk, rfl⟩

theorem mem_collectMissing_all_seen {M : Matrix} {n : Nat} (h : ¬ M.isEmpty = true) (hn : ¬ n = 0)
    {k : Nat} {alts : Alts} {rest : List (Nat × Alts)}
    (hc : collectCtors M = (k, alts) :: rest) (hlt : ¬ rest.length + 1 < alts.length)
    {p : Row} (hp : p ∈ collectMissing M n) :
    ∃ alt ∈ alts, ∃ p' ∈ collectMissing (specCtor alt.1 alt.2 M) (alt.2 + n - 1),
      p = recoverCtor alts alt.1 alt.2 p' := by
  rw [collectMissing_all_seen h hn hc hlt] at hp
  simp only [List.mem_flatMap, List.mem_map] at hp
  obtain ⟨alt, halt, p', hp', rfl⟩ := hp
  exact ⟨alt, halt, p', hp', rfl⟩

/-- induction over the reported rows: one case per branch of `collectMissing` that reports -/
theorem collectMissing.mem_induct {motive : Matrix → Nat → Row → Prop}
    (empty : ∀ M n, M.isEmpty = true → motive M n (wilds n))
    (no_ctor : ∀ M n p', ¬ M.isEmpty = true → ¬ n = 0 → collectCtors M = [] →
      motive (specWild M) (n - 1) p' → motive M n (.wild :: p'))
    (unseen : ∀ M n alts c a p', ¬ M.isEmpty = true → ¬ n = 0 → c ∉ keys (collectCtors M) →
      motive (specWild M) (n - 1) p' → motive M n (.ctor c alts (wilds a) :: p'))
    (all_seen : ∀ M n alts c a p', ¬ M.isEmpty = true → ¬ n = 0 →
      p' ∈ collectMissing (specCtor c a M) (a + n - 1) →
      motive (specCtor c a M) (a + n - 1) p' → motive M n (recoverCtor alts c a p'))
    (M : Matrix) (n : Nat) : ∀ p ∈ collectMissing M n, motive M n p := by
  induction M, n using collectMissing.induct with
  | case1 M n hM =>
    intro p hp
    rw [collectMissing_empty hM, List.mem_singleton] at hp
    exact hp ▸ empty M n hM
  | case2 M hM => intro p hp; rw [collectMissing_zero hM] at hp; cases hp
  | case3 M n hM hn hc ih =>
    intro p hp
    obtain ⟨p', hp', rfl⟩ := mem_collectMissing_no_ctor hM hn hc hp
    exact no_ctor M n p' hM hn hc (ih p' hp')
  | case4 M n hM hn k alts rest hc hlt ih =>
    intro p hp
    obtain ⟨p', hp', alt, _, hnk, rfl⟩ := mem_collectMissing_unseen hM hn hc hlt hp
    exact unseen M n alts alt.1 alt.2 p' hM hn hnk (ih p' hp')
  | case5 M n hM hn k alts rest hc hlt ih =>
    intro p hp
    obtain ⟨alt, _, p', hp', rfl⟩ := mem_collectMissing_all_seen hM hn hc hlt hp
    exact all_seen M n alts alt.1 alt.2 p' hM hn hp' (ih alt p' hp')

theorem recoverCtor_length {alts : Alts} {c a n : Nat} {p' : Row} (hn : ¬ n = 0)
    (h : p'.length = a + n - 1) : (recoverCtor alts c a p').length = n := by
  have h1 : 1 ≤ n := Nat.pos_of_ne_zero hn
  rw [recoverCtor, List.length_cons, List.length_drop, h, Nat.add_sub_assoc h1,
    Nat.add_sub_cancel_left, Nat.sub_add_cancel h1]

theorem collectMissing_length (M : Matrix) (n : Nat) : ∀ p ∈ collectMissing M n, p.length = n := by
  apply collectMissing.mem_induct
  case empty => intro M n _; exact wilds_length n
  case no_ctor =>
    intro M n p' _ hn _ ih
    rw [List.length_cons, ih]
    exact Nat.sub_add_cancel (Nat.pos_of_ne_zero hn)
  case unseen =>
    intro M n _ _ _ p' _ hn _ ih
    rw [List.length_cons, ih]
    exact Nat.sub_add_cancel (Nat.pos_of_ne_zero hn)
  case all_seen => intro M n alts c a p' _ hn _ ih; exact recoverCtor_length hn ih

/-- `recover_ctor` splits a reported row of the specialised matrix within its length -/
theorem arity_le_length_of_mem {M : Matrix} {a n : Nat} {p' : Row} (hn : ¬ n = 0)
    (hp' : p' ∈ collectMissing M (a + n - 1)) : a ≤ p'.length := by
  rw [collectMissing_length _ _ p' hp', Nat.add_sub_assoc (Nat.pos_of_ne_zero hn)]
  exact Nat.le_add_right a _

theorem recoverCtor_match {alts : Alts} {c a : Nat} {p' : Row} {vs : List Val}
    (hlen : a ≤ p'.length) (hm : pmatchL (recoverCtor alts c a p') vs = true) :
    ∃ ws vs', vs = .ctor c ws :: vs' ∧ ws.length = a ∧ pmatchL p' (ws ++ vs') = true := by
  obtain ⟨w, vs', rfl, hw, hrest⟩ := pmatchL_cons hm
  obtain ⟨ws, rfl, hargs⟩ := pmatch_ctor_iff.mp hw
  refine ⟨ws, vs', rfl, ?_, ?_⟩
  · rw [← pmatchL_length hargs, List.length_take, Nat.min_eq_left hlen]
  · rw [← List.take_append_drop a p']; exact pmatchL_append_of hargs hrest

/-- Functional induction for `collectMissing` on a typed matrix of width `n`: the width and typing
of the matrix of each recursive call are derived here once.  The cases are those of
`Matrix::collect_missing_patterns`. -/
theorem collectMissing.typed_induct {sg : Sig} {motive : Matrix → Nat → List Ty → Prop}
    (empty : ∀ M n ts, M.isEmpty = true → ts.length = n → motive M n ts)
    (zero : ∀ M, ¬ M.isEmpty = true → motive M 0 [])
    (no_ctor : ∀ M n t0 ts, ¬ M.isEmpty = true → ¬ n = 0 →
      Matrix.hasTy sg M (t0 :: ts) = true → collectCtors M = [] →
      motive (specWild M) (n - 1) ts → motive M n (t0 :: ts))
    (unseen : ∀ M n t d ts k rest, ¬ M.isEmpty = true → ¬ n = 0 →
      Matrix.hasTy sg M (.data t :: ts) = true → sg[t]? = some d →
      collectCtors M = (k, declAlts d) :: rest → rest.length + 1 < (declAlts d).length →
      motive (specWild M) (n - 1) ts → motive M n (.data t :: ts))
    (all_seen : ∀ M n t d ts k rest, ¬ M.isEmpty = true → ¬ n = 0 →
      Matrix.hasTy sg M (.data t :: ts) = true → sg[t]? = some d →
      collectCtors M = (k, declAlts d) :: rest → ¬ rest.length + 1 < (declAlts d).length →
      (∀ c tys, lookupCtor c d = some tys →
        motive (specCtor c tys.length M) (tys.length + n - 1) (tys ++ ts)) →
      motive M n (.data t :: ts))
    (M : Matrix) (n : Nat) (ts : List Ty) :
    ts.length = n → Matrix.hasTy sg M ts = true → motive M n ts := by
  intro hlen hMt
  induction M, n using collectMissing.induct generalizing ts with
  | case1 M n hM => exact empty M n ts hM hlen
  | case2 M hM => exact List.eq_nil_of_length_eq_zero hlen ▸ zero M hM
  | case3 M n hM hn hc ih =>
    obtain ⟨t0, ts, rfl⟩ := List.exists_cons_of_length_pos (l := ts) (hlen ▸ Nat.pos_of_ne_zero hn)
    subst hlen
    exact no_ctor M _ t0 ts hM hn hMt hc (ih ts rfl (specWild_hasTy hMt))
  | case4 M n hM hn k alts rest hc hlt ih =>
    obtain ⟨t0, ts, rfl⟩ := List.exists_cons_of_length_pos (l := ts) (hlen ▸ Nat.pos_of_ne_zero hn)
    subst hlen
    obtain ⟨t, d, _, rfl, hd, rfl, _⟩ := collectCtors_typed hMt (hc ▸ List.mem_cons_self)
    exact unseen M _ t d ts k rest hM hn hMt hd hc hlt (ih ts rfl (specWild_hasTy hMt))
  | case5 M n hM hn k alts rest hc hlt ih =>
    obtain ⟨t0, ts, rfl⟩ := List.exists_cons_of_length_pos (l := ts) (hlen ▸ Nat.pos_of_ne_zero hn)
    subst hlen
    obtain ⟨t, d, _, rfl, hd, rfl, _⟩ := collectCtors_typed hMt (hc ▸ List.mem_cons_self)
    exact all_seen M _ t d ts k rest hM hn hMt hd hc hlt fun c tys hl =>
      ih (c, tys.length) (tys ++ ts) (List.length_append ..) (specCtor_hasTy hMt hd hl)

theorem missing_witness_gen {sg : Sig} {inh : List Val} (hs : Sig.ok sg = true) (hi : inhOk sg inh = true)
    (M : Matrix) (n : Nat) :
    ∀ ts, ts.length = n → (∀ t ∈ ts, Ty.ok sg t = true) → Matrix.hasTy sg M ts = true →
      ∀ p ∈ collectMissing M n, Escapes sg ts M p := by
  intro ts hlen hok hMt
  refine collectMissing.typed_induct (motive := fun M n ts =>
      (∀ t ∈ ts, Ty.ok sg t = true) → ∀ p ∈ collectMissing M n, Escapes sg ts M p)
    ?empty ?zero ?no_ctor ?unseen ?all_seen M n ts hlen hMt hok
  case empty =>
    intro M n ts hM hlen hok p hp
    rw [collectMissing_empty hM, List.mem_singleton] at hp
    subst hp
    refine ⟨ts.map (witness inh), witnessL_hasTy hi hok, pmatchL_wilds (by simp [hlen]), ?_⟩
    rw [List.isEmpty_iff.mp hM]
    simp
  case zero => intro M hM _ p hp; rw [collectMissing_zero hM] at hp; cases hp
  case no_ctor =>
    intro M n t0 ts hM hn hMt hc ih hok p hp
    obtain ⟨p', hp', rfl⟩ := mem_collectMissing_no_ctor hM hn hc hp
    obtain ⟨hok0, hok'⟩ := List.forall_mem_cons.mp hok
    obtain ⟨w, hw, hf⟩ := fresh_head hs hi hok0 hMt (isComplete_none_of_nil hc)
    exact .fresh hw hf rfl (ih hok' p' hp')
  case unseen =>
    intro M n t d ts k rest hM hn hMt hd hc hlt ih hok p hp
    obtain ⟨p', hp', ⟨c, a⟩, halt, hnk, rfl⟩ := mem_collectMissing_unseen hM hn hc hlt hp
    obtain ⟨tys, hl, rfl⟩ := declAlts_mem_lookup (Sig.ok_get hs hd).1 halt
    -- the witness is an instance of the constructor that the column lacks
    exact .fresh (Val.hasTy_ctor_intro hd hl (witnessL_hasTy hi ((Sig.ok_get hs hd).2 c tys hl)))
      (freshFor_unseen hnk _) (by simp [pmatch, pmatchL_wilds])
      (ih (List.forall_mem_cons.mp hok).2 p' hp')
  case all_seen =>
    intro M n t d ts k rest hM hn hMt hd hc hlt ih hok p hp
    obtain ⟨⟨c, a⟩, halt, p', hp', rfl⟩ := mem_collectMissing_all_seen hM hn hc hlt hp
    obtain ⟨tys, hl, rfl⟩ := declAlts_mem_lookup (Sig.ok_get hs hd).1 halt
    have := ih c tys hl (Sig.ok_fields hs hd hl (List.forall_mem_cons.mp hok).2) p' hp'
    rw [← List.take_append_drop tys.length p'] at this
    exact .ctor hd hl (by rw [List.length_take, Nat.min_eq_left (arity_le_length_of_mem hn hp')]) this

mutual
/-- No literal pattern at any depth: then no instance of a reported row is matched by the matrix. -/
def Pat.litFree : Pat → Bool
  | .wild => true
  | .lit _ => false
  | .ctor _ _ args => Pat.litFreeL args
def Pat.litFreeL : List Pat → Bool
  | [] => true
  | p :: ps => Pat.litFree p && Pat.litFreeL ps
end

def Matrix.litFree (M : Matrix) : Bool := M.all Pat.litFreeL

theorem Pat.litFreeL_append (a b : List Pat) :
    Pat.litFreeL (a ++ b) = (Pat.litFreeL a && Pat.litFreeL b) := by
  induction a with
  | nil => simp [Pat.litFreeL]
  | cons p ps ih => simp [Pat.litFreeL, ih, Bool.and_assoc]

theorem Pat.litFreeL_wilds (n : Nat) : Pat.litFreeL (wilds n) = true := by
  induction n with
  | zero => simp [wilds, Pat.litFreeL]
  | succ n ih => simpa [wilds, List.replicate_succ, Pat.litFreeL, Pat.litFree] using ih

theorem Matrix.litFree_filterMap {M : Matrix} {f : Row → Option Row} (h : Matrix.litFree M = true)
    (hf : ∀ r r', Pat.litFreeL r = true → f r = some r' → Pat.litFreeL r' = true) :
    Matrix.litFree (M.filterMap f) = true := by
  simp only [Matrix.litFree, List.all_eq_true] at *
  intro r' hr'
  obtain ⟨r, hr, e⟩ := List.mem_filterMap.mp hr'
  exact hf r r' (h r hr) e

theorem specCtor_litFree {M : Matrix} (h : Matrix.litFree M = true) (c a : Nat) :
    Matrix.litFree (specCtor c a M) = true := by
  refine Matrix.litFree_filterMap h fun r r' hr e => ?_
  rcases specRowCtor_eq_some.mp e with ⟨rest, rfl, rfl⟩ | ⟨alts, args, rest, rfl, _, rfl⟩
  · simpa [Pat.litFreeL, Pat.litFree, Pat.litFreeL_append, Pat.litFreeL_wilds] using hr
  · simpa [Pat.litFreeL, Pat.litFree, Pat.litFreeL_append] using hr

theorem specWild_litFree {M : Matrix} (h : Matrix.litFree M = true) :
    Matrix.litFree (specWild M) = true := by
  refine Matrix.litFree_filterMap h fun r r' hr e => ?_
  rw [specRowWild_eq_some.mp e] at hr
  simpa [Pat.litFreeL, Pat.litFree] using hr

theorem freshFor_of_litFree {M : Matrix} (hlf : Matrix.litFree M = true) (hc : collectCtors M = [])
    (w : Val) : FreshFor M w := by
  intro p rest hr hp
  cases p with
  | wild => exact absurd rfl hp
  | lit l =>
    have := List.all_eq_true.mp hlf _ hr
    simp [Pat.litFreeL, Pat.litFree] at this
  | ctor c a args =>
    have := mem_keys_collectCtors hr
    simp [hc, keys] at this

theorem missing_unmatched_gen (M : Matrix) (n : Nat) :
    Matrix.litFree M = true →
      ∀ p ∈ collectMissing M n, ∀ vs, pmatchL p vs = true → ∀ r ∈ M, pmatchL r vs = false := by
  intro hlf p hp
  refine collectMissing.mem_induct (motive := fun M _ p => Matrix.litFree M = true →
      ∀ vs, pmatchL p vs = true → ∀ r ∈ M, pmatchL r vs = false)
    ?empty ?no_ctor ?unseen ?all_seen M n p hp hlf
  case empty =>
    intro M n hM _ vs _
    rw [List.isEmpty_iff.mp hM]
    simp
  case no_ctor =>
    intro M n p' _ _ hc ih hlf vs hm
    obtain ⟨w, vs, rfl, _, hm'⟩ := pmatchL_cons hm
    exact unmatched_of_iff (specWild_matches (freshFor_of_litFree hlf hc w) vs)
      (ih (specWild_litFree hlf) vs hm')
  case unseen =>
    intro M n alts c a p' _ _ hnk ih hlf vs hm
    obtain ⟨w, vs, rfl, hw, hm'⟩ := pmatchL_cons hm
    obtain ⟨ws, rfl, _⟩ := pmatch_ctor_iff.mp hw
    exact unmatched_of_iff (specWild_matches (freshFor_unseen hnk ws) vs)
      (ih (specWild_litFree hlf) vs hm')
  case all_seen =>
    intro M n alts c a p' _ hn hp' ih hlf vs hm
    obtain ⟨ws, vs, rfl, rfl, hm'⟩ := recoverCtor_match (arity_le_length_of_mem hn hp') hm
    exact unmatched_of_iff (specCtor_matches c ws vs M)
      (ih (specCtor_litFree hlf _ _) (ws ++ vs) hm')

/-- `Complete::Yes` is also what `collect_missing_patterns` tests for, on a typed column -/
theorem isComplete_some_of_ge {sg : Sig} {M : Matrix} {t0 : Ty} {ts : List Ty}
    (hM : Matrix.hasTy sg M (t0 :: ts) = true) {k : Nat} {alts : Alts} {rest : List (Nat × Alts)}
    (hc : collectCtors M = (k, alts) :: rest) (hlt : ¬ rest.length + 1 < alts.length) :
    isComplete M = some alts := by
  obtain ⟨t, d, _, rfl, hd, rfl, _⟩ := collectCtors_typed hM (hc ▸ List.mem_cons_self)
  have := collectCtors_length_le hM hd
  simp only [hc, List.length_cons, declAlts, List.length_map] at this hlt
  simp only [isComplete, hc, declAlts, List.length_map]
  rw [if_pos (by omega)]

/-- `collect_missing_patterns` follows the recursion of `is_useful` on the all-wildcard vector -/
theorem not_useful_of_missing_nil {sg : Sig} (hs : Sig.ok sg = true) (M : Matrix) (n : Nat) :
    ∀ ts, ts.length = n → Matrix.hasTy sg M ts = true → collectMissing M n = [] →
      isUseful M (wilds n) = false := by
  apply collectMissing.typed_induct
  case empty => intro M n ts hM _ he; rw [collectMissing_empty hM] at he; cases he
  case zero => intro M hM _; exact isUseful_nil_row hM
  case no_ctor =>
    intro M n t0 ts hM hn _ hc ih he
    rw [collectMissing_no_ctor hM hn hc, List.map_eq_nil_iff] at he
    rw [wilds_of_ne_zero hn, isUseful_wild_none hM _ (isComplete_none_of_nil hc)]
    exact ih he
  case unseen =>
    intro M n t d ts k rest hM hn hMt hd hc hlt ih he
    rw [wilds_of_ne_zero hn, isUseful_wild_none hM _ (isComplete_none_of_lt hc hlt)]
    apply ih
    -- some constructor is unseen, so every reported row of the default matrix is extended
    have hne : (collectCtors M).length ≠ d.length := by
      intro e
      rw [hc, List.length_cons] at e
      rw [declAlts, List.length_map, ← e] at hlt
      exact Nat.lt_irrefl _ hlt
    obtain ⟨c, tys, hl, hnot⟩ := exists_unseen hMt hd (Sig.ok_get hs hd).1 hne
    rw [collectMissing_unseen hM hn hc hlt] at he
    cases hrec : collectMissing (specWild M) (n - 1) with
    | nil => rfl
    | cons p' ps =>
      rw [hrec, List.flatMap_cons, List.append_eq_nil_iff, List.map_eq_nil_iff,
        List.filterMap_eq_nil_iff] at he
      have := he.1 _ (lookupCtor_mem_declAlts hl)
      rw [isMissing_of_unseen (hc ▸ hnot)] at this
      cases this
  case all_seen =>
    intro M n t d ts k rest hM hn hMt hd hc hlt ih he
    rw [wilds_of_ne_zero hn, isUseful_wild_some hM _ (isComplete_some_of_ge hMt hc hlt),
      List.any_eq_false]
    rw [collectMissing_all_seen hM hn hc hlt, List.flatMap_eq_nil_iff] at he
    intro ⟨c, a⟩ halt
    obtain ⟨tys, hl, rfl⟩ := declAlts_mem_lookup (Sig.ok_get hs hd).1 halt
    rw [wilds_append, Bool.not_eq_true, ← Nat.add_sub_assoc (Nat.pos_of_ne_zero hn)]
    exact ih c tys hl (List.map_eq_nil_iff.mp (he _ halt))

theorem missing_nil_exhaustive_gen {sg : Sig} (hs : Sig.ok sg = true) (M : Matrix) (n : Nat)
    (ts : List Ty) (hlen : ts.length = n) (hM : Matrix.hasTy sg M ts = true)
    (he : collectMissing M n = []) (vs : List Val) (hvs : Val.hasTyL sg vs ts = true) :
    ∃ r ∈ M, pmatchL r vs = true :=
  useful_sound_gen M (wilds n) ts hM (Pat.hasTyL_wilds hlen) (not_useful_of_missing_nil hs M n ts hlen hM he)
    vs hvs (pmatchL_wilds (by rw [Val.hasTyL_length hvs, hlen]))

end AikenVerif.Match
