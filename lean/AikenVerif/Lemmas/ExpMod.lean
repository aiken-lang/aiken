import AikenVerif.Model.Builtin
/-!
`expModInteger`: the square-and-multiply loop computes `b ^ e mod m`; the extended-Euclid loop
returns an inverse.
-/
namespace AikenVerif

/-- `acc` collects the factors of the bits of `e` already consumed -/
theorem powMod_spec (m : Nat) (hm : 0 < m) : ∀ (e b acc : Nat), acc < m →
    powMod b e m acc = acc * b ^ e % m := by
  intro e
  induction e using Nat.strongRecOn with
  | ind e ih =>
    intro b acc hacc
    rw [powMod]
    by_cases he : e = 0
    · subst he
      rw [dif_pos rfl, Nat.pow_zero, Nat.mul_one, Nat.mod_eq_of_lt hacc]
    · have hsplit : b ^ e = (b * b) ^ (e / 2) * b ^ (e % 2) := by
        rw [← Nat.pow_two, ← Nat.pow_mul, ← Nat.pow_add, Nat.div_add_mod]
      rw [dif_neg he, hsplit, ← Nat.mul_assoc, Nat.mul_right_comm]
      have hlt : e / 2 < e := Nat.div_lt_self (Nat.pos_of_ne_zero he) (by decide)
      by_cases hodd : e % 2 = 1
      · rw [if_pos hodd, ih (e / 2) hlt _ _ (Nat.mod_lt _ hm), hodd, Nat.pow_one, Nat.mul_mod,
          Nat.mod_mod, ← Nat.pow_mod, ← Nat.mul_mod]
      · rw [if_neg hodd, ih (e / 2) hlt _ _ hacc, (Nat.mod_two_eq_zero_or_one e).resolve_right hodd, Nat.pow_zero,
          Nat.mul_one,
          Nat.mul_mod, ← Nat.pow_mod, ← Nat.mul_mod]

theorem int_pow_emod (a m : Int) (n : Nat) : (a % m) ^ n % m = a ^ n % m := by
  induction n with
  | zero => simp
  | succ n ih =>
    rw [Int.pow_succ, Int.pow_succ, Int.mul_emod, ih, Int.emod_emod, ← Int.mul_emod]

/-- inside the 8192-bit limits no guard of `expModInteger` fires -/
theorem expMod_in_range (b e m : Int) (hm : 1 < m) (hmb : m ≤ expModBound - 1) (he1 : -expModBound ≤ e)
    (he2 : e ≤ expModBound - 1) (hb1 : -expModBound ≤ b) (hb2 : b ≤ expModBound - 1) (hb0 : b = 0 → 0 ≤ e) :
    expMod b e m =
      if e < 0 then
        match modularInverse b m with
        | none => .err
        | some inv => .ok ((inv.toNat : Int) ^ (-e).toNat % m)
      else .ok (b ^ e.toNat % m) := by
  have h1 : ¬ (m ≤ 0 ∨ m > expModBound - 1) := by omega
  have h2 : ¬ m = 1 := by omega
  have h3 : ¬ (b = 0 ∧ e < 0) := by omega
  have h4 : ¬ (((b < -expModBound ∨ b > expModBound - 1) ∨ e < -expModBound) ∨ e > expModBound - 1) := by omega
  have hm' : 0 < m := Int.lt_trans Int.zero_lt_one hm
  have hm0 : (m.toNat : Int) = m := Int.toNat_of_nonneg (Int.le_of_lt hm')
  -- the loop started at 1 computes the power of anything congruent to its base
  have hpow (x n : Nat) (y : Int) (hxy : (x : Int) % m = y % m) : (powMod x n m.toNat 1 : Int) = y ^ n % m := by
    rw [powMod_spec m.toNat (Int.lt_toNat.mpr hm') _ _ 1 (Int.lt_toNat.mpr hm), Nat.one_mul, Int.natCast_emod, Int.natCast_pow, hm0,
      ← int_pow_emod, hxy, int_pow_emod]
  simp only [expMod, Bool.or_eq_true, decide_eq_true_eq, Bool.and_eq_true, h1, h2, h3, h4, if_false]
  split
  · cases modularInverse b m with
    | none => rfl
    | some inv => exact congrArg Res.ok (hpow _ _ _ (by rw [Int.natCast_emod, hm0, Int.emod_emod]))
  · refine congrArg Res.ok (hpow _ _ _ ?_)
    rw [Int.toNat_of_nonneg (Int.fmod_nonneg_of_pos b hm'), Int.fmod_eq_emod_of_nonneg b (Int.le_of_lt hm'),
      Int.emod_emod]

theorem expModBound_pos : 0 < expModBound :=
  Int.pow_pos (by decide)

theorem expMod_nonneg (b e m : Int) (hm : 1 < m) (hmb : m ≤ expModBound - 1) (he : 0 ≤ e)
    (heb : e ≤ expModBound - 1) (hb1 : -expModBound ≤ b) (hb2 : b ≤ expModBound - 1) :
    expMod b e m = .ok (b ^ e.toNat % m) := by
  rw [expMod_in_range b e m hm hmb
      (Int.le_trans (Int.neg_nonpos_of_nonneg (Int.le_of_lt expModBound_pos)) he) heb hb1 hb2 (fun _ => he),
    if_neg (Int.not_lt.mpr he)]

theorem expMod_neg (b e m : Int) (hm : 1 < m) (hmb : m ≤ expModBound - 1) (he : e < 0)
    (heb : -expModBound ≤ e) (hb1 : -expModBound ≤ b) (hb2 : b ≤ expModBound - 1) (hb0 : b ≠ 0) :
    expMod b e m = match modularInverse b m with
      | none => .err
      | some inv => .ok ((inv.toNat : Int) ^ (-e).toNat % m) := by
  rw [expMod_in_range b e m hm hmb heb (Int.le_sub_one_of_lt (Int.lt_trans he expModBound_pos)) hb1 hb2
      (fun h0 => absurd h0 hb0), if_pos he]

/-- invariant of the extended-Euclid loop: `t·b ≡ r` and `newT·b ≡ newR` (mod m) -/
theorem invLoop_inv (b m : Int) : ∀ (fuel : Nat) (t newT r newR : Int),
    m ∣ t * b - r → m ∣ newT * b - newR →
    m ∣ (invLoop fuel t newT r newR).1 * b - (invLoop fuel t newT r newR).2 := by
  intro fuel
  induction fuel with
  | zero => intro t newT r newR h1 _; simpa [invLoop] using h1
  | succ n ih =>
    intro t newT r newR h1 h2
    unfold invLoop
    split
    · exact h1
    · apply ih _ _ _ _ h2
      have : (t - r.tdiv newR * newT) * b - (r - r.tdiv newR * newR)
          = (t * b - r) - r.tdiv newR * (newT * b - newR) := by
        simp only [Int.sub_mul, Int.mul_sub, Int.mul_assoc]; omega
      rw [this]
      exact Int.dvd_sub h1 (Int.dvd_trans h2 (Int.dvd_mul_left _ _))

theorem modularInverse_sound (b m inv : Int) (h : modularInverse b m = some inv) :
    m ∣ inv * b - 1 := by
  have h1 : m ∣ 1 * b - b.fmod m :=
    ⟨b.fdiv m, by rw [Int.one_mul]; exact Int.sub_eq_iff_eq_add.mpr (Int.mul_fdiv_add_fmod b m).symm⟩
  have hinv := invLoop_inv b m (m.toNat + 2) 0 1 m (b.fmod m) ⟨-1, by simp⟩ h1
  unfold modularInverse at h
  simp only at h
  generalize invLoop (m.toNat + 2) 0 1 m (b.fmod m) = p at h hinv
  split at h
  · cases h
  · rename_i hr
    rw [Decidable.not_not.mp hr] at hinv
    cases h
    split
    · have : (p.1 + m) * b - 1 = (p.1 * b - 1) + m * b := by rw [Int.add_mul]; omega
      rw [this]
      exact Int.dvd_add hinv (Int.dvd_mul_right m b)
    · exact hinv

end AikenVerif
