import AikenVerif.Lemmas.CekCost
/-!
The converse budget threshold: with non-negative costs, a budget that covers the remaining ledger
cost is never exhausted (the batched spending never dips below zero on the way).
-/
namespace AikenVerif
open Gen

def ExBudget.le (x y : ExBudget) : Prop := x.mem ≤ y.mem ∧ x.cpu ≤ y.cpu

namespace ExBudget
/-- `NonNeg b` is `le .zero b` by unfolding -/
theorem nonNeg_iff {b : ExBudget} : NonNeg b ↔ le .zero b := Iff.rfl

theorem le_refl (x : ExBudget) : x.le x := ⟨Int.le_refl _, Int.le_refl _⟩

theorem nonNeg_sub {x y : ExBudget} : NonNeg (x.sub y) ↔ y.le x := and_congr Int.sub_nonneg Int.sub_nonneg

theorem le_sub_of_add_le {x y z : ExBudget} (h : (x.add y).le z) : y.le (z.sub x) :=
  ⟨Int.le_sub_left_of_add_le h.1, Int.le_sub_left_of_add_le h.2⟩

theorem add_le_of_le_sub {x y z : ExBudget} (h : y.le (z.sub x)) : (x.add y).le z :=
  ⟨Int.add_le_of_le_sub_left h.1, Int.add_le_of_le_sub_left h.2⟩

theorem le_of_add_le {x y z : ExBudget} (h : (x.add y).le z) (hy : le .zero y) : x.le z :=
  ⟨Int.le_trans (Int.le_add_of_nonneg_right hy.1) h.1, Int.le_trans (Int.le_add_of_nonneg_right hy.2) h.2⟩

theorem le_of_le_sub {x y z : ExBudget} (h : x.le (z.sub y)) (hy : le .zero y) : x.le z :=
  ⟨Int.le_trans h.1 (Int.sub_le_self _ hy.1), Int.le_trans h.2 (Int.sub_le_self _ hy.2)⟩
end ExBudget

/-- all prices are non-negative (true of every ledger cost model) -/
structure NonnegCosts (cm : CostModel) (sem : Sem) : Prop where
  step : ∀ i, ExBudget.le .zero (kindCost cm i)
  builtin : ∀ b args c, builtinCost cm sem b args = .ok c → ExBudget.le .zero c

theorem pendingFrom_nonneg (cm : CostModel) (sem : Sem) (h : NonnegCosts cm sem) (c : List Nat) :
    ∀ n i, ExBudget.le .zero (pendingFrom cm c n i) := by
  intro n
  induction n with
  | zero => intro i; exact ExBudget.le_refl _
  | succ n ih =>
    intro i
    have h1 := h.step i
    exact ⟨Int.add_nonneg (Int.mul_nonneg h1.1 (Int.natCast_nonneg _)) (ih (i + 1)).1,
      Int.add_nonneg (Int.mul_nonneg h1.2 (Int.natCast_nonneg _)) (ih (i + 1)).2⟩

theorem nonNeg_sub_of_le_eff (cm : CostModel) (sem : Sem) (hn : NonnegCosts cm sem) (a : Acct) (c : ExBudget)
    (h : ExBudget.le c (eff cm a)) : NonNeg (a.budget.sub c) :=
  ExBudget.nonNeg_sub.2 (ExBudget.le_of_le_sub h (pendingFrom_nonneg cm sem hn a.counts 9 0))

theorem spendLoop_no_oob (cm : CostModel) (sem : Sem) (hn : NonnegCosts cm sem) : ∀ (n i : Nat) (a : Acct),
    ExBudget.le (pendingFrom cm a.counts n i) a.budget → spendLoop cm n i a ≠ .oob := by
  intro n
  induction n with
  | zero => intro i a _ h; cases h
  | succ n ih =>
    intro i a hle
    have hrest := pendingFrom_nonneg cm sem hn a.counts n (i + 1)
    rcases spendLoop_succ cm n i a with ⟨hs, _⟩ | hs | ⟨hs, hneg⟩ | ⟨hs, _⟩ <;> rw [hs]
    · intro h; cases h
    · intro h; cases h
    · exact absurd (ExBudget.nonNeg_sub.2 (ExBudget.le_of_add_le hle hrest)) hneg
    · apply ih
      rw [pendingFrom_congr cm (a.counts.set i 0) a.counts n (i + 1)
        (fun j hj _ => by rw [getD_set, if_neg (by omega)])]
      exact ExBudget.le_sub_of_add_le hle

theorem spendUnbudgeted_no_oob (cm : CostModel) (sem : Sem) (hn : NonnegCosts cm sem) (a : Acct)
    (ha : AcctWF a) (hle : ExBudget.le (pending cm a) a.budget) : spendUnbudgeted cm a ≠ .oob := by
  unfold spendUnbudgeted
  have := spendLoop_no_oob cm sem hn (a.counts.length - 1) 0 a (by rw [ha.len]; exact hle)
  cases hs : spendLoop cm (a.counts.length - 1) 0 a with
  | oob => exact absurd hs this
  | _ => intro h; cases h

theorem chargeStep_no_oob (cfg : Config) (hn : NonnegCosts cfg.costs cfg.sem) (a : Acct) (ko : Option StepKind)
    (hk : ∀ k, ko = some k → k ≠ .startUp) (hi : AcctInv cfg.costs a)
    (hle : ExBudget.le (optStepCost cfg.costs ko) (eff cfg.costs a)) : chargeStep cfg a ko ≠ .oob := by
  cases ko with
  | none => intro h; cases h
  | some k =>
    simp only [chargeStep]
    rw [stepAndMaybeSpend_eq cfg a k hi.len]
    split
    · apply spendUnbudgeted_no_oob cfg.costs cfg.sem hn _ (a.count_wf k hi.len)
      rw [Acct.count_pending cfg.costs a k (hk k rfl) hi.len]
      exact ExBudget.add_le_of_le_sub hle
    · intro h; cases h

theorem callCharge_nonneg (cm : CostModel) (sem : Sem) (hn : NonnegCosts cm sem) (b : Builtin) (args : List Value) :
    ExBudget.le .zero (match builtinCost cm sem b args with | .ok c => c | _ => .zero) := by
  cases hc : builtinCost cm sem b args with
  | ok c => exact hn.builtin b args c hc
  | _ => exact ExBudget.le_refl _

theorem applyCharge_nonneg (cm : CostModel) (sem : Sem) (hn : NonnegCosts cm sem) (fn arg : Value) :
    ExBudget.le .zero (applyCharge cm sem fn arg) := by
  cases fn with
  | builtin b forces args =>
    simp only [applyCharge]
    split
    · split
      · exact callCharge_nonneg cm sem hn b _
      · exact ExBudget.le_refl _
    · exact ExBudget.le_refl _
  | _ => exact ExBudget.le_refl _

theorem forceCharge_nonneg (cm : CostModel) (sem : Sem) (hn : NonnegCosts cm sem) (v : Value) :
    ExBudget.le .zero (forceCharge cm sem v) := by
  cases v with
  | builtin b forces args =>
    simp only [forceCharge]
    split
    · split
      · exact callCharge_nonneg cm sem hn b _
      · exact ExBudget.le_refl _
    · exact ExBudget.le_refl _
  | _ => exact ExBudget.le_refl _

/-- a charge is a step price, the price of a builtin call, or nothing -/
theorem stepCharge_nonneg (cm : CostModel) (sem : Sem) (hn : NonnegCosts cm sem) (s : State) :
    ExBudget.le .zero (stepCharge cm sem s) := by
  unfold stepCharge
  split
  · rename_i t
    cases hk : termKind t with
    | none => exact ExBudget.le_refl _
    | some k =>
      rw [optStepCost, ← kindCost_tag cm k (termKind_ne_startUp t k hk)]
      exact hn.step k.tag
  · exact applyCharge_nonneg cm sem hn _ _
  · exact applyCharge_nonneg cm sem hn _ _
  · exact forceCharge_nonneg cm sem hn _
  · exact ExBudget.le_refl _

theorem step_no_oob (cfg : Config) (hn : NonnegCosts cfg.costs cfg.sem) (a : Acct) (s : State)
    (hi : AcctInv cfg.costs a) (hle : ExBudget.le (stepCharge cfg.costs cfg.sem s) (eff cfg.costs a)) :
    step cfg a s ≠ .oob := by
  cases s with
  | compute ctx env t =>
    obtain ⟨o, _, himpl⟩ := compute_lockstep cfg.sem (denotation cfg.sem) ctx env t
    rw [step, himpl]
    cases hcs : chargeStep cfg a (termKind t) with
    | ok a1 => cases o <;> (intro h; cases h)
    | oob => exact absurd hcs (chargeStep_no_oob cfg hn a _ (termKind_ne_startUp t) hi hle)
    | _ => intro h; cases h
  | ret ctx v =>
    cases ctx with
    | nil =>
      rw [step_ret_nil]
      rcases flush_cases cfg a with hf | ⟨_, hf⟩ <;> rw [hf]
      · have hno : spendUnbudgeted cfg.costs a ≠ .oob :=
          spendUnbudgeted_no_oob cfg.costs cfg.sem hn a hi.len (ExBudget.nonNeg_sub.1 (ExBudget.nonNeg_iff.2 hle))
        cases hs : spendUnbudgeted cfg.costs a with
        | oob => exact absurd hs hno
        | _ => intro h; cases h
      · intro h; cases h
    | cons fr ctx =>
      rw [step]
      have hr := returnStep_returns cfg a fr ctx v
      revert hr
      cases returnStep cfg a fr ctx v with
      | oob => intro hr; exact absurd (nonNeg_sub_of_le_eff cfg.costs cfg.sem hn a _ hle) hr
      | ok p => intro _ h; cases h
      | _ => intro _ h; cases h

end AikenVerif
