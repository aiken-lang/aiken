import AikenVerif.Model.Text
import AikenVerif.Lemmas.TermInd
/-! Helper lemmas for C15: names.  The parser re-interns every name (`relabel`); resolving the new uniques gives what
resolving the texts of the original gave, and under `NamesConsistent` (Props/C15) that is what its uniques gave.  No token occurs here. -/
namespace AikenVerif.Text

theorem mkName_nameChars (n : Name) (u : Nat) : (mkName (nameChars n) u).text = n.text := by
  simp [mkName, nameChars]

section idx
variable {α : Type} [DecidableEq α]

theorem idxOf_eq_findIdx? (x : α) (l : List α) : idxOf x l = l.findIdx? (x == ·) := by
  induction l with
  | nil => rfl
  | cons b bs ih => simp [idxOf, List.findIdx?_cons, ih]

theorem idxOf_append_some (x : α) (l e : List α) (i : Nat) (h : idxOf x l = some i) :
    idxOf x (l ++ e) = some i := by
  rw [idxOf_eq_findIdx?] at h ⊢
  simp [List.findIdx?_append, h]

theorem idxOf_none_iff (x : α) (l : List α) : idxOf x l = none ↔ x ∉ l := by
  simp only [idxOf_eq_findIdx?, List.findIdx?_eq_none_iff, beq_eq_false_iff_ne]
  exact ⟨fun h hm => h x hm rfl, fun h y hy e => h (e ▸ hy)⟩

theorem idxOf_append_self (x : α) (l : List α) (h : idxOf x l = none) : idxOf x (l ++ [x]) = some l.length := by
  rw [idxOf_eq_findIdx?] at h ⊢
  simp [List.findIdx?_append, h, List.findIdx?_cons]

theorem idxOf_inj (x y : α) (l : List α) (i : Nat) (hx : idxOf x l = some i) (hy : idxOf y l = some i) : x = y := by
  rw [idxOf_eq_findIdx?, List.findIdx?_eq_some_iff_getElem] at hx hy
  obtain ⟨_, hx, -⟩ := hx
  obtain ⟨_, hy, -⟩ := hy
  simp only [beq_iff_eq] at hx hy
  rw [hx, hy]

theorem idxOf_map_inj {β : Type} [DecidableEq β] (f : α → β) (x : α) (l : List α)
    (h : ∀ y ∈ l, f y = f x → y = x) : idxOf (f x) (l.map f) = idxOf x l := by
  induction l with
  | nil => rfl
  | cons b bs ih =>
    have ih' := ih (fun y hy => h y (by simp [hy]))
    simp only [List.map_cons, idxOf]
    by_cases hb : x = b
    · subst hb; simp
    · have : f x ≠ f b := fun e => hb (h b (by simp) e.symm).symm
      simp [hb, this, ih']
end idx

/-- the interner only ever appends -/
def Ext (st S : Interner) : Prop := ∃ e, S = st ++ e

theorem Ext.refl (st : Interner) : Ext st st := ⟨[], by simp⟩
theorem Ext.trans {a b c : Interner} (h1 : Ext a b) (h2 : Ext b c) : Ext a c := by
  obtain ⟨e1, rfl⟩ := h1; obtain ⟨e2, rfl⟩ := h2; exact ⟨e1 ++ e2, by simp⟩

theorem intern_ext (x : List Char) (st : Interner) : Ext st (intern x st).2 := by
  unfold intern; split
  · exact Ext.refl st
  · exact ⟨[x], rfl⟩

theorem intern_idx (x : List Char) (st : Interner) : idxOf x (intern x st).2 = some (intern x st).1 := by
  unfold intern; split
  · rename_i i h; simpa using h
  · rename_i h; simpa using idxOf_append_self x st h

/-- the unique a name of text `x` gets from an interner that `S` extends: the position of `x` in `S` -/
def codeOf (S : Interner) (x : List Char) : Int := Int.ofNat ((idxOf x S).getD 0)

theorem codeOf_of_ext {st S : Interner} (h : Ext st S) (x : List Char) (i : Nat) (hi : idxOf x st = some i) :
    codeOf S x = Int.ofNat i := by
  obtain ⟨e, rfl⟩ := h
  simp [codeOf, idxOf_append_some x st e i hi]

theorem mem_of_ext_idx {st S : Interner} (h : Ext st S) (x : List Char) (i : Nat) (hi : idxOf x st = some i) : x ∈ S := by
  obtain ⟨e, rfl⟩ := h
  exact List.mem_append_left e (Decidable.by_contra fun hn => by simp [(idxOf_none_iff x st).2 hn] at hi)

theorem codeOf_inj (S : Interner) (x y : List Char) (hx : x ∈ S) (hy : y ∈ S) (h : codeOf S y = codeOf S x) : y = x := by
  obtain ⟨i, hi⟩ := Option.ne_none_iff_exists'.1 fun e => (idxOf_none_iff x S).1 e hx
  obtain ⟨j, hj⟩ := Option.ne_none_iff_exists'.1 fun e => (idxOf_none_iff y S).1 e hy
  have hji : j = i := Int.ofNat.inj (by simpa [codeOf, hi, hj] using h)
  exact idxOf_inj y x S i (hji ▸ hj) hi

theorem relabel_ext : (∀ t st, Ext st (relabel st t).2) ∧ (∀ ts st, Ext st (relabelList st ts).2) :=
  term_ind
    (var := fun _ st => intern_ext _ st)
    (lam := fun _ _ ih st => (intern_ext _ st).trans (ih _))
    (app := fun _ _ ihf iha st => (ihf st).trans (iha _))
    (delay := fun _ ih => ih) (force := fun _ ih => ih)
    (error := Ext.refl) (builtin := fun _ => Ext.refl) (const := fun _ => Ext.refl)
    (constr := fun _ _ ih => ih)
    (case := fun _ _ ihs ihbs st => (ihs st).trans (ihbs _))
    (nil := Ext.refl)
    (cons := fun _ _ iht ihts st => (iht st).trans (ihts _))

/-- a scope of texts as the scope of their uniques -/
def envCodes (S : Interner) (envT : List (List Char)) : List Int := envT.map (codeOf S)

theorem intern_codeOf (S st : Interner) (n : Name) (h : Ext (intern (nameChars n) st).2 S) :
    (mkName (nameChars n) (intern (nameChars n) st).1).unique = codeOf S (nameChars n) ∧ nameChars n ∈ S := by
  have hi := intern_idx (nameChars n) st
  exact ⟨by simp [mkName, codeOf_of_ext h _ _ hi], mem_of_ext_idx h _ _ hi⟩

-- `S` is ANY interner extending the one reached so far: a unique is a position, which extension keeps, so the uniques of
-- all subterms can be read in one final `S`, whichever interner each was made in.
theorem resolve_relabel :
    (∀ t (st S : Interner) (envT : List (List Char)), Ext (relabel st t).2 S → (∀ x ∈ envT, x ∈ S) →
      resolveBy (·.unique) (envCodes S envT) (relabel st t).1 = resolveBy nameChars envT t) ∧
    (∀ ts (st S : Interner) (envT : List (List Char)), Ext (relabelList st ts).2 S → (∀ x ∈ envT, x ∈ S) →
      resolveListBy (·.unique) (envCodes S envT) (relabelList st ts).1 = resolveListBy nameChars envT ts) := by
  apply term_ind
  case var =>
    intro n st S envT hext henv
    simp only [relabel] at hext ⊢
    obtain ⟨hu, hm⟩ := intern_codeOf S st n hext
    simp only [resolveBy, hu, envCodes]
    rw [idxOf_map_inj (codeOf S) (nameChars n) envT (fun y hy e => codeOf_inj S _ _ hm (henv y hy) e)]
    simp [mkName_nameChars]
  case lam =>
    intro n b ih st S envT hext henv
    simp only [relabel] at hext ⊢
    obtain ⟨hu, hm⟩ := intern_codeOf S st n ((relabel_ext.1 b _).trans hext)
    have ih := ih (intern (nameChars n) st).2 S (nameChars n :: envT) hext (List.forall_mem_cons.2 ⟨hm, henv⟩)
    simp only [envCodes, List.map_cons] at ih
    simp [resolveBy, hu, envCodes, ih]
  case app =>
    intro f a ihf iha st S envT hext henv
    simp only [relabel, resolveBy] at hext ⊢
    rw [ihf st S envT ((relabel_ext.1 a _).trans hext) henv, iha _ S envT hext henv]
  case case =>
    intro s bs ihs ihbs st S envT hext henv
    simp only [relabel, resolveBy] at hext ⊢
    rw [ihs st S envT ((relabel_ext.2 bs _).trans hext) henv, ihbs _ S envT hext henv]
  case cons =>
    intro t ts iht ihts st S envT hext henv
    simp only [relabelList, resolveListBy] at hext ⊢
    rw [iht st S envT ((relabel_ext.2 ts _).trans hext) henv, ihts _ S envT hext henv]
  all_goals intros; simp_all [relabel, relabelList, resolveBy, resolveListBy]

theorem resolveList_relabel : (ts : List (Term Name)) → ∀ (st S : Interner) (envT : List (List Char)),
      Ext (relabelList st ts).2 S → (∀ x ∈ envT, x ∈ S) →
      resolveListBy (·.unique) (envCodes S envT) (relabelList st ts).1 = resolveListBy nameChars envT ts :=
  resolve_relabel.2

theorem resolve_scopeOk :
    (∀ t env, scopeOk env t = true →
      resolveBy nameChars (env.map nameChars) t = resolveBy (·.unique) (env.map (·.unique)) t) ∧
    (∀ ts env, scopeOkList env ts = true →
      resolveListBy nameChars (env.map nameChars) ts = resolveListBy (·.unique) (env.map (·.unique)) ts) := by
  apply term_ind
  case lam =>
    intro n b ih env h
    have := ih (n :: env) h
    simp only [List.map_cons] at this
    simp [resolveBy, this]
  all_goals intros; simp_all [scopeOk, scopeOkList, resolveBy, resolveListBy]

theorem resolveList_scopeOk : (ts : List (Term Name)) → ∀ (env : List Name), scopeOkList env ts = true →
      resolveListBy nameChars (env.map nameChars) ts = resolveListBy (·.unique) (env.map (·.unique)) ts :=
  resolve_scopeOk.2

theorem nameless_relabel (t : Term Name) (h : scopeOk [] t = true) : nameless (relabel [] t).1 = nameless t := by
  have h1 := resolve_relabel.1 t [] (relabel [] t).2 [] (Ext.refl _) (by simp)
  have h2 := resolve_scopeOk.1 t [] h
  simp only [envCodes, List.map_nil] at h1 h2
  simp only [nameless]
  rw [h1, h2]

/-- under `H` the text and the unique each determine the name, so both lookups find the position of `n` itself -/
theorem idx_of_bijective (A : List Name)
    (H : ∀ n ∈ A, ∀ m ∈ A, (n.text = m.text ↔ n.unique = m.unique)) (n : Name) (hn : n ∈ A)
    (env : List Name) (henv : ∀ m ∈ env, m ∈ A) :
    idxOf (nameChars n) (env.map nameChars) = idxOf n.unique (env.map (·.unique)) := by
  have eq (m : Name) (ht : m.text = n.text) (hu : m.unique = n.unique) : m = n := by
    cases m; cases n; simp_all
  rw [idxOf_map_inj nameChars n env fun m hm e =>
        have ht := String.toList_inj.1 e
        eq m ht ((H m (henv m hm) n hn).1 ht),
    idxOf_map_inj (·.unique) n env fun m hm e => eq m ((H m (henv m hm) n hn).2 e) e]

theorem scopeOk_of_bijective (A : List Name)
    (H : ∀ n ∈ A, ∀ m ∈ A, (n.text = m.text ↔ n.unique = m.unique)) :
    (∀ t env, (∀ m ∈ env, m ∈ A) → (∀ n ∈ names t, n ∈ A) → scopeOk env t = true) ∧
    (∀ ts env, (∀ m ∈ env, m ∈ A) → (∀ n ∈ namesList ts, n ∈ A) → scopeOkList env ts = true) := by
  have both {l₁ l₂ : List Name} {x y : Bool} (h : ∀ n ∈ l₁ ++ l₂, n ∈ A) (hx : (∀ n ∈ l₁, n ∈ A) → x = true)
      (hy : (∀ n ∈ l₂, n ∈ A) → y = true) : (x && y) = true := by
    rw [List.forall_mem_append] at h
    rw [hx h.1, hy h.2, Bool.and_self]
  exact term_ind
    (var := fun n env henv ht => by
      simp [scopeOk, idx_of_bijective A H n (ht n (List.mem_singleton_self n)) env henv])
    (lam := fun n b ih env henv ht =>
      ih (n :: env) (List.forall_mem_cons.2 ⟨ht n List.mem_cons_self, henv⟩) fun m hm => ht m (List.mem_cons_of_mem n hm))
    (app := fun _ _ ihf iha env henv ht => both ht (ihf env henv) (iha env henv))
    (delay := fun _ ih => ih) (force := fun _ ih => ih)
    (error := fun _ _ _ => rfl) (builtin := fun _ _ _ _ => rfl) (const := fun _ _ _ _ => rfl)
    (constr := fun _ _ ih => ih)
    (case := fun _ _ ihs ihbs env henv ht => both ht (ihs env henv) (ihbs env henv))
    (nil := fun _ _ _ => rfl)
    (cons := fun _ _ iht ihts env henv ht => both ht (iht env henv) (ihts env henv))

theorem scopeOkList_of_bijective (A : List Name)
      (H : ∀ n ∈ A, ∀ m ∈ A, (n.text = m.text ↔ n.unique = m.unique)) :
      (ts : List (Term Name)) → ∀ env : List Name, (∀ m ∈ env, m ∈ A) → (∀ n ∈ namesList ts, n ∈ A) →
        scopeOkList env ts = true :=
  (scopeOk_of_bijective A H).2

theorem namesConsistent_of_bijective (p : Program Name) (h : namesBijective p = true) : namesConsistent p = true := by
  simp [namesBijective] at h
  exact (scopeOk_of_bijective (names p.term) h).1 p.term [] (by simp) (fun n hn => hn)

end AikenVerif.Text
