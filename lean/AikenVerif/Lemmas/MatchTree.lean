import AikenVerif.Lemmas.MatchBasic
/-!
Decision trees (C07): for an ARBITRARY column-selection function `sel`, evaluating
`build sel M` on a value vector returns the index of the first row of `M` that matches.
`firstMatchRows`, the specification that `tree_is_firstMatch_rows` (Props/C07) is stated against,
is defined here.
-/
namespace AikenVerif.Match

/-- naive first match over indexed rows -/
def firstMatchRows : IMatrix → List Val → Option Nat
  | [], _ => none
  | r :: M, vs => if pmatchL r.2 vs then some r.1 else firstMatchRows M vs

theorem allWild_matches {r : Row} {vs : List Val} (h : allWild r = true) (hl : r.length = vs.length) :
    pmatchL r vs = true := by
  induction r generalizing vs with
  | nil => cases vs <;> simp_all [pmatchL]
  | cons p r ih =>
    cases vs with
    | nil => simp at hl
    | cons v vs =>
      cases p with
      | wild =>
        simp only [allWild] at h
        simp only [List.length_cons, Nat.add_right_cancel_iff] at hl
        simp [pmatchL, pmatch, ih h hl]
      | lit l => simp [allWild] at h
      | ctor c a args => simp [allWild] at h

theorem pmatchL_eraseIdx {r : Row} {vs : List Val} {j : Nat} {p : Pat} {v : Val}
    (hp : r[j]? = some p) (hv : vs[j]? = some v) :
    pmatchL r vs = (pmatch p v && pmatchL (r.eraseIdx j) (vs.eraseIdx j)) := by
  induction r generalizing j vs with
  | nil => cases hp
  | cons q r ih =>
    cases vs with
    | nil => cases hv
    | cons w vs =>
      cases j with
      | zero =>
        cases hp; cases hv
        rfl
      | succ j =>
        rw [pmatchL, List.eraseIdx_cons_succ, List.eraseIdx_cons_succ, pmatchL, ih hp hv,
          Bool.and_left_comm]

/-! What a test node sees of a value: its head and, under it, its fields. -/

def Val.head : Val → Head
  | .ctor c vs => .ctor c vs.length
  | .lit l => .lit l

def Val.fields : Val → List Val
  | .ctor _ vs => vs
  | .lit _ => []

theorem headFields_eq (hd : Head) (v : Val) :
    headFields hd v = if hd = v.head then some v.fields else none := by
  cases hd <;> cases v <;> simp [headFields, Val.head, Val.fields, eq_comm]

theorem Val.fields_length (v : Val) : v.fields.length = v.head.arity := by
  cases v <;> rfl

theorem Val.fields_of_lit {v : Val} {l : Lit} (h : v.head = .lit l) : v.fields = [] := by
  cases v with
  | lit l' => rfl
  | ctor c vs => cases h

theorem pmatch_eq_head (p : Pat) (v : Val) :
    pmatch p v =
      match p with
      | .wild => true
      | .lit l => decide (v.head = .lit l)
      | .ctor c _ args => decide (v.head = .ctor c args.length) && pmatchL args v.fields := by
  cases p with
  | wild => simp [pmatch]
  | lit l => cases v <;> simp [pmatch, Val.head, eq_comm]
  | ctor c alts args =>
    cases v with
    | lit l => simp [pmatch, Val.head]
    | ctor c' vs =>
      simp only [pmatch, Val.head, Val.fields, Head.ctor.injEq]
      cases hm : pmatchL args vs with
      | false => simp
      | true => simp [pmatchL_length hm, eq_comm]

/-- "yes" branch, one row against a stack whose column `j` holds `v` -/
theorem treeSpecRow_spec {j : Nat} {r : IRow} {vs : List Val} {v : Val}
    (hl : r.2.length = vs.length) (hv : vs[j]? = some v) :
    (treeSpecRow j v.head r = none → pmatchL r.2 vs = false) ∧
    ∀ r', treeSpecRow j v.head r = some r' →
      r'.1 = r.1 ∧ r'.2.length = (v.fields ++ vs.eraseIdx j).length ∧
        pmatchL r'.2 (v.fields ++ vs.eraseIdx j) = pmatchL r.2 vs := by
  have hj : j < r.2.length := hl ▸ (List.getElem?_eq_some_iff.mp hv).1
  obtain ⟨p, hp⟩ : ∃ p, r.2[j]? = some p := ⟨r.2[j], List.getElem?_eq_getElem hj⟩
  have hw : (r.2.eraseIdx j).length = (vs.eraseIdx j).length := by
    rw [List.length_eraseIdx_of_lt hj, List.length_eraseIdx_of_lt (hl ▸ hj), hl]
  rw [pmatchL_eraseIdx hp hv, pmatch_eq_head, treeSpecRow, hp]
  cases p with
  | wild =>
    refine ⟨nofun, ?_⟩
    rintro _ ⟨⟩
    refine ⟨rfl, by simp [v.fields_length, hw], ?_⟩
    rw [pmatchL_append (by simp [v.fields_length]), pmatchL_wilds v.fields_length]
  | lit l =>
    by_cases eh : v.head = .lit l
    · simp [eh, Val.fields_of_lit eh, hw]
    · simp [eh]
  | ctor c alts args =>
    by_cases eh : v.head = .ctor c args.length
    · have ha : args.length = v.fields.length := by rw [v.fields_length, eh]; rfl
      dsimp only
      rw [if_pos eh, decide_eq_true eh, Bool.true_and]
      refine ⟨nofun, ?_⟩
      rintro _ ⟨⟩
      exact ⟨rfl, by simp [ha, hw], pmatchL_append ha⟩
    · simp [eh]

/-- "yes" branch: the rows dropped had another head in column `j` and so did not match -/
theorem firstMatchRows_specRow {j : Nat} {vs : List Val} {v : Val} (hv : vs[j]? = some v) (M : IMatrix)
    (hl : ∀ r ∈ M, r.2.length = vs.length) :
    firstMatchRows (M.filterMap (treeSpecRow j v.head)) (v.fields ++ vs.eraseIdx j) =
      firstMatchRows M vs := by
  induction M with
  | nil => simp [firstMatchRows]
  | cons r M ih =>
    have hrow := treeSpecRow_spec (r := r) (hl r List.mem_cons_self) hv
    have ih' := ih (fun r' h => hl r' (List.mem_cons_of_mem _ h))
    rw [List.filterMap_cons]
    split
    · rename_i e
      simp [firstMatchRows, hrow.1 e, ih']
    · rename_i r' e
      obtain ⟨hi, _, hm⟩ := hrow.2 r' e
      simp only [firstMatchRows, hi, hm, ih']

/-- "no" branch: the rows dropped had head `hd` in column `j` and so did not match -/
theorem firstMatchRows_keep {j : Nat} {hd : Head} {vs : List Val} {v : Val}
    (hv : vs[j]? = some v) (hf : hd ≠ v.head) (M : IMatrix)
    (hl : ∀ r ∈ M, r.2.length = vs.length) :
    firstMatchRows (M.filter (treeKeepRow j hd)) vs = firstMatchRows M vs := by
  induction M with
  | nil => simp [firstMatchRows]
  | cons r M ih =>
    have ih' := ih (fun r' h => hl r' (List.mem_cons_of_mem _ h))
    rw [List.filter_cons]
    split
    · simp [firstMatchRows, ih']
    · rename_i hk
      have hj : j < r.2.length := hl r List.mem_cons_self ▸ (List.getElem?_eq_some_iff.mp hv).1
      obtain ⟨p, hp⟩ : ∃ p, r.2[j]? = some p := ⟨r.2[j], List.getElem?_eq_getElem hj⟩
      simp only [treeKeepRow, hp, decide_eq_true_eq, ne_eq, Decidable.not_not] at hk
      have hm : pmatchL r.2 vs = false := by
        rw [pmatchL_eraseIdx hp hv, pmatch_eq_head]
        cases p with
        | wild => cases hk
        | lit l => cases hk; simp [Ne.symm hf]
        | ctor c a args => cases hk; simp [Ne.symm hf]
      simp [firstMatchRows, hm, ih']

theorem firstNonWild_spec {r : Row} (h : allWild r = false) :
    ∃ p, r[firstNonWild r]? = some p ∧ headOf p ≠ none := by
  induction r with
  | nil => simp [allWild] at h
  | cons q r ih =>
    cases q with
    | wild =>
      simp only [allWild] at h
      obtain ⟨p, hp, hh⟩ := ih h
      exact ⟨p, by simpa [firstNonWild] using hp, hh⟩
    | lit l => exact ⟨.lit l, by simp [firstNonWild], by simp [headOf]⟩
    | ctor c a args => exact ⟨.ctor c a args, by simp [firstNonWild], by simp [headOf]⟩

theorem colHead_firstNonWild {r : IRow} {M : IMatrix} (h : ¬ allWild r.2 = true) :
    colHead (firstNonWild r.2) (r :: M) ≠ none := by
  obtain ⟨p, hp, hh⟩ := firstNonWild_spec (by simpa using h)
  unfold colHead
  rw [hp]
  simp only
  cases hho : headOf p with
  | none => exact absurd hho hh
  | some hd => simp

theorem build_nil (sel : IMatrix → Nat) : build sel [] = .fail := by
  unfold build; rfl

theorem build_leaf (sel : IMatrix → Nat) {r : IRow} {M : IMatrix} (h : allWild r.2 = true) :
    build sel (r :: M) = .leaf r.1 := by
  rw [build]; simp [h]

def testNode (sel : IMatrix → Nat) (M : IMatrix) (j : Nat) (hd : Head) : Tree :=
  .test j hd (build sel (M.filterMap (treeSpecRow j hd))) (build sel (M.filter (treeKeepRow j hd)))

theorem build_sel (sel : IMatrix → Nat) {r : IRow} {M : IMatrix} (h : ¬ allWild r.2 = true) {hd : Head}
    (hc : colHead (sel (r :: M)) (r :: M) = some hd) :
    build sel (r :: M) = testNode sel (r :: M) (sel (r :: M)) hd := by
  rw [build, if_neg h]
  split
  · rename_i hd' h'
    rw [hc] at h'; cases h'; rfl
  · rename_i h'; rw [hc] at h'; cases h'

theorem build_fallback (sel : IMatrix → Nat) {r : IRow} {M : IMatrix} (h : ¬ allWild r.2 = true)
    (hc : colHead (sel (r :: M)) (r :: M) = none) {hd : Head}
    (hc2 : colHead (firstNonWild r.2) (r :: M) = some hd) :
    build sel (r :: M) = testNode sel (r :: M) (firstNonWild r.2) hd := by
  rw [build, if_neg h]
  split
  · rename_i hd' h'; rw [hc] at h'; cases h'
  · split
    · rename_i hd' h'
      rw [hc2] at h'; cases h'; rfl
    · rename_i h'; rw [hc2] at h'; cases h'

theorem test_correct {sel : IMatrix → Nat} {M : IMatrix} {j : Nat} {hd : Head}
    (hc : colHead j M = some hd)
    (ihy : ∀ vs, (∀ r ∈ M.filterMap (treeSpecRow j hd), r.2.length = vs.length) →
      evalTree (build sel (M.filterMap (treeSpecRow j hd))) vs =
        firstMatchRows (M.filterMap (treeSpecRow j hd)) vs)
    (ihn : ∀ vs, (∀ r ∈ M.filter (treeKeepRow j hd), r.2.length = vs.length) →
      evalTree (build sel (M.filter (treeKeepRow j hd))) vs =
        firstMatchRows (M.filter (treeKeepRow j hd)) vs)
    (vs : List Val) (hl : ∀ r ∈ M, r.2.length = vs.length) :
    evalTree (testNode sel M j hd) vs = firstMatchRows M vs := by
  obtain ⟨r0, hr0, p, hp, _⟩ := colHead_some hc
  have hlt : j < vs.length := hl r0 hr0 ▸ (List.getElem?_eq_some_iff.mp hp).1
  obtain ⟨v, hv⟩ : ∃ v, vs[j]? = some v := ⟨vs[j], List.getElem?_eq_getElem hlt⟩
  simp only [testNode, evalTree, hv, headFields_eq]
  by_cases hh : hd = v.head
  · subst hh
    simp only [if_true]
    rw [ihy, firstMatchRows_specRow hv M hl]
    intro r' hr'
    obtain ⟨r, hr, e⟩ := List.mem_filterMap.mp hr'
    exact ((treeSpecRow_spec (hl r hr) hv).2 r' e).2.1
  · simp only [hh, if_false]
    rw [ihn, firstMatchRows_keep hv hh M hl]
    exact fun r hr => hl r (List.mem_filter.mp hr).1

theorem tree_correct (sel : IMatrix → Nat) (M : IMatrix) :
    ∀ vs, (∀ r ∈ M, r.2.length = vs.length) → evalTree (build sel M) vs = firstMatchRows M vs := by
  induction M using build.induct (sel := sel) with
  | case1 => intro vs _; rw [build_nil]; simp [evalTree, firstMatchRows]
  | case2 r M h =>
    intro vs hl
    rw [build_leaf sel h]
    simp [evalTree, firstMatchRows, allWild_matches h (hl r List.mem_cons_self)]
  | case3 r M h hd hc ihy ihn =>
    intro vs hl
    rw [build_sel sel h hc]
    exact test_correct hc ihy ihn vs hl
  | case4 r M h hc hd hc2 ihy ihn =>
    intro vs hl
    rw [build_fallback sel h hc hc2]
    exact test_correct hc2 ihy ihn vs hl
  | case5 r M h hc hc2 => exact absurd hc2 (colHead_firstNonWild h)

theorem firstMatchRows_indexRows (i : Nat) (cs : List Pat) (x : Val) :
    firstMatchRows (indexRows i cs) [x] = firstMatchFrom i cs x := by
  induction cs generalizing i with
  | nil => simp [indexRows, firstMatchRows, firstMatchFrom]
  | cons p ps ih => simp [indexRows, firstMatchRows, firstMatchFrom, pmatchL, ih]

theorem indexRows_width (i : Nat) (cs : List Pat) : ∀ r ∈ indexRows i cs, r.2.length = 1 := by
  induction cs generalizing i with
  | nil => simp [indexRows]
  | cons p ps ih =>
    intro r hr
    simp only [indexRows, List.mem_cons] at hr
    rcases hr with e | hr
    · subst e; rfl
    · exact ih _ r hr

end AikenVerif.Match
