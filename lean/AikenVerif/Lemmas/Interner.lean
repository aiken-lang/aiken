import AikenVerif.Lemmas.DeBruijn
/-!
`CodeGenInterner` (optimize/interner.rs): under the binders `kenv` (innermost first, each a
pair of the binder's key `(text, previous unique)` and the fresh unique it received) the
interner's `identifiers` holds, per key, exactly the fresh uniques of the binders in scope
with that key, innermost on top.  `SameBinding`, `InternOk`: one step against the spec by key, which
for `key := (·.unique)` is `specNameTo` (`specByKey_unique`).
-/
namespace AikenVerif.Db

section HashMap
variable {κ ν : Type} [DecidableEq κ]
theorem hmGet_remove (k k' : κ) : ∀ (m : List (κ × ν)), hmGet k' (hmRemove k m) = if k = k' then none else hmGet k' m
  | [] => by simp [hmRemove, hmGet]
  | (a, v) :: m => by
    simp only [hmRemove]
    by_cases h : a = k
    · subst h
      simp only [if_true, hmGet]
      rw [hmGet_remove a k' m]
      by_cases h3 : a = k' <;> simp [h3]
    · simp only [h, if_false, hmGet]
      rw [hmGet_remove k k' m]
      by_cases h2 : a = k'
      · have : ¬ k = k' := fun e => h (h2.trans e.symm)
        simp [h2, this]
      · simp [h2]

theorem hmGet_insert (k k' : κ) (v : ν) (m : List (κ × ν)) :
    hmGet k' (hmInsert k v m) = if k = k' then some v else hmGet k' m := by
  simp only [hmInsert, hmGet, hmGet_remove]
  by_cases h : k = k' <;> simp [h]
end HashMap

abbrev Key := String × Int
abbrev KEnv := List (Key × Int)

def stackOf (s : Interner) (key : Key) : List Int :=
  match hmGet key s.identifiers with
  | some st => st
  | none => []

def keysOf (kenv : KEnv) : List Key := kenv.map (·.1)
def newsOf (kenv : KEnv) : List Int := kenv.map (·.2)
def stackFor : KEnv → Key → List Int
  | [], _ => []
  | p :: kenv, key => if p.1 = key then p.2 :: stackFor kenv key else stackFor kenv key

/-- per key the interner's stack (`stackOf`) is the binders' (`stackFor`); the fresh uniques (`newsOf`) are
distinct and below the counter -/
structure IInv (s : Interner) (kenv : KEnv) : Prop where
  stacks : ∀ key, stackOf s key = stackFor kenv key
  nodup : (newsOf kenv).Nodup
  fresh : ∀ u ∈ newsOf kenv, u < s.current

theorem iinv_new : IInv Interner.new [] :=
  ⟨fun _ => rfl, List.nodup_nil, fun _ h => by simp [newsOf] at h⟩

theorem lookup_eq (s : Interner) (key : Key) :
    s.lookup key = match stackOf s key with
      | u :: _ => (u, s)
      | [] => s.fresh := by
  simp only [Interner.lookup, stackOf]
  cases hmGet key s.identifiers with
  | none => rfl
  | some st => cases st <;> rfl

theorem bind_spec (s : Interner) (key : Key) :
    (s.bind key).1 = s.current ∧ (s.bind key).2.current = s.current + 1 ∧
    ∀ key', stackOf (s.bind key).2 key' = if key = key' then s.current :: stackOf s key' else stackOf s key' := by
  refine ⟨rfl, rfl, fun key' => ?_⟩
  simp only [Interner.bind, Interner.fresh, stackOf, hmGet_insert]
  by_cases h : key = key'
  · subst h; simp
    cases hmGet key s.identifiers <;> rfl
  · simp [h]

theorem unbind_spec (s : Interner) (key : Key) (u : Int) (rest : List Int) (h : stackOf s key = u :: rest) :
    ∃ s', s.unbind key = .ok s' ∧ s'.current = s.current ∧
      ∀ key', stackOf s' key' = if key = key' then rest else stackOf s key' := by
  simp only [stackOf] at h
  cases hg : hmGet key s.identifiers with
  | none => simp [hg] at h
  | some st =>
    simp [hg] at h
    subst h
    simp only [Interner.unbind, hg]
    cases rest with
    | nil =>
      refine ⟨_, rfl, rfl, fun key' => ?_⟩
      simp only [stackOf, hmGet_remove]
      by_cases h : key = key' <;> simp [h]
    | cons r rs =>
      refine ⟨_, rfl, rfl, fun key' => ?_⟩
      simp only [stackOf, hmGet_insert]
      by_cases h : key = key' <;> simp [h]

theorem resolveKey_cons (p : Key × Int) (kenv : KEnv) (key : Key) :
    resolveKey (keysOf (p :: kenv)) key =
      if p.1 = key then some 1 else (resolveKey (keysOf kenv) key).map (· + 1) := rfl

theorem stackFor_cons (p : Key × Int) (kenv : KEnv) (key : Key) :
    stackFor (p :: kenv) key = if p.1 = key then p.2 :: stackFor kenv key else stackFor kenv key := rfl

theorem resolveKey_some : ∀ (kenv : KEnv) (key : Key) (i : Nat), resolveKey (keysOf kenv) key = some i →
    ∃ u rest j, i = j + 1 ∧ stackFor kenv key = u :: rest ∧ (newsOf kenv)[j]? = some u
  | [], _, _, h => by cases h
  | p :: kenv, key, i, h => by
    rw [resolveKey_cons] at h
    rw [stackFor_cons]
    by_cases hp : p.1 = key
    · rw [if_pos hp] at h
      cases h
      exact ⟨p.2, stackFor kenv key, 0, rfl, if_pos hp, rfl⟩
    · rw [if_neg hp] at h
      obtain ⟨i', hr, rfl⟩ := Option.map_eq_some_iff.mp h
      obtain ⟨u, rest, j, rfl, h2, h3⟩ := resolveKey_some kenv key i' hr
      exact ⟨u, rest, j + 1, rfl, (if_neg hp).trans h2, h3⟩

theorem resolveKey_none : ∀ (kenv : KEnv) (key : Key), resolveKey (keysOf kenv) key = none → stackFor kenv key = []
  | [], _, _ => rfl
  | p :: kenv, key, h => by
    rw [resolveKey_cons] at h
    rw [stackFor_cons]
    by_cases hp : p.1 = key
    · rw [if_pos hp] at h
      cases h
    · rw [if_neg hp] at h ⊢
      exact resolveKey_none kenv key (Option.map_eq_none_iff.mp h)

def ckey (n : Name) : Key := (n.text, n.unique)

/-- `out` succeeds with the result of `spec`, and fails with a free unique when `spec` fails -/
def SameBinding {δ : Type} (spec out : Except Err δ) : Prop :=
  (∀ d, spec = .ok d → out = .ok d) ∧ (∀ e, spec = .error e → ∃ n, out = .error (.freeUnique n))

theorem SameBinding.pure {δ : Type} (d : δ) : SameBinding (pure d) (pure d) :=
  ⟨fun _ h => h, fun _ h => (by cases h)⟩

theorem SameBinding.bind {δ δ' : Type} {spec out : Except Err δ} {k k' : δ → Except Err δ'}
    (h : SameBinding spec out) (hk : ∀ d, SameBinding (k d) (k' d)) : SameBinding (spec >>= k) (out >>= k') := by
  cases spec with
  | error e =>
    obtain ⟨n, rfl⟩ := h.2 e rfl
    exact ⟨fun _ hd => (by cases hd), fun _ _ => ⟨n, rfl⟩⟩
  | ok d =>
    rw [h.1 d rfl]
    exact hk d

/-- what one interning step establishes; the last two clauses are `SameBinding spec (after t')`, and the
anonymous constructor takes one `SameBinding` term for both -/
def InternOk (kenv : KEnv) (s : Interner) {α δ : Type} (r : Except Err (α × Interner))
    (spec : Except Err δ) (after : α → Except Err δ) : Prop :=
  ∃ t' s', r = .ok (t', s') ∧ IInv s' kenv ∧ s.current ≤ s'.current ∧
    (∀ d, spec = .ok d → after t' = .ok d) ∧
    (∀ e, spec = .error e → ∃ n, after t' = .error (.freeUnique n))

theorem IInv.mono_of {s s' : Interner} {kenv : KEnv} (h : IInv s kenv)
    (hs : ∀ key, stackOf s' key = stackOf s key) (hc : s.current ≤ s'.current) : IInv s' kenv :=
  ⟨fun key => (hs key).trans (h.stacks key), h.nodup, fun u hu => Int.lt_of_lt_of_le (h.fresh u hu) hc⟩

theorem IInv.bind {s : Interner} {kenv : KEnv} (h : IInv s kenv) (key : Key) :
    IInv (s.bind key).2 ((key, s.current) :: kenv) := by
  obtain ⟨_, hb2, hb3⟩ := bind_spec s key
  refine ⟨fun key' => ?_, List.nodup_cons.mpr ⟨fun hm => Int.lt_irrefl _ (h.fresh _ hm), h.nodup⟩, fun u hu => ?_⟩
  · rw [hb3 key', stackFor_cons, h.stacks]
  · rw [hb2]
    rcases List.mem_cons.mp hu with rfl | hu
    · exact Int.lt_succ _
    · exact Int.lt_trans (h.fresh u hu) (Int.lt_succ _)

theorem internTerm_var (n : Name) (s : Interner) :
    internTerm (.var n) s = pure (.var ⟨n.text, (s.lookup (ckey n)).1⟩, (s.lookup (ckey n)).2) := rfl

theorem specByKey_var {κ : Type} [DecidableEq κ] (key : Name → κ) (env : List κ) (n : Name) :
    specByKey key env (.var n) =
      match resolveKey env (key n) with
      | some i => .ok (.var i)
      | none => .error (.freeUnique n) := rfl

theorem internTerm_ok :
    (∀ (t : Term Name) (s : Interner) (kenv : KEnv), IInv s kenv →
      InternOk kenv s (internTerm t s) (specByKey ckey (keysOf kenv) t)
        (specNameTo (fun _ i => (i : DeBruijn)) (newsOf kenv))) ∧
    (∀ (ts : List (Term Name)) (s : Interner) (kenv : KEnv), IInv s kenv →
      InternOk kenv s (internList ts s) (specByKeyList ckey (keysOf kenv) ts)
        (specNameToList (fun _ i => (i : DeBruijn)) (newsOf kenv))) := by
  apply term_ind
  case var =>
    intro n s kenv hi
    rw [internTerm_var, specByKey_var]
    rw [lookup_eq, hi.stacks]
    cases hr : resolveKey (keysOf kenv) (ckey n) with
    | some i =>
      -- the top of the key's stack is the unique of the innermost binder with that key
      obtain ⟨u, rest, j, rfl, h2, h3⟩ := resolveKey_some kenv (ckey n) i hr
      rw [h2]
      refine ⟨_, _, rfl, hi, Int.le_refl _, fun d hd => ?_, fun e he => (by cases he)⟩
      cases hd
      rw [specNameTo_var, resolve_of_getElem (newsOf kenv) j u hi.nodup h3]
    | none =>
      -- no binder with that key: the variable gets a unique no binder in scope has
      rw [resolveKey_none kenv (ckey n) hr]
      have hres : resolve (newsOf kenv) s.current = none :=
        (resolve_none_iff _ _).mpr fun hm => Int.lt_irrefl _ (hi.fresh _ hm)
      refine ⟨.var ⟨n.text, s.current⟩, s.fresh.2, rfl, hi.mono_of (fun _ => rfl) (Int.le_of_lt (Int.lt_succ _)),
        Int.le_of_lt (Int.lt_succ _), fun d hd => (by cases hd), fun e _ => ⟨⟨n.text, s.current⟩, ?_⟩⟩
      rw [specNameTo_var, hres]
  case lam =>
    intro m b ih s kenv hi
    obtain ⟨b', s2, h1, h2, h3, h4⟩ := ih (s.bind (ckey m)).2 _ (hi.bind (ckey m))
    have hst : stackOf s2 (ckey m) = s.current :: stackFor kenv (ckey m) := by
      rw [h2.stacks, stackFor_cons, if_pos rfl]
    obtain ⟨s3, hu1, hu2, hu3⟩ := unbind_spec s2 (ckey m) _ _ hst
    have hcur : s.current ≤ s3.current := by
      rw [hu2]
      exact Int.le_trans (Int.le_of_lt (Int.lt_succ _)) h3
    refine ⟨.lam ⟨m.text, s.current⟩ b', s3, bind_eq_ok h1 (bind_eq_ok hu1 rfl), ?_, hcur,
      SameBinding.bind h4 fun _ => .pure _⟩
    refine ⟨fun key => ?_, hi.nodup, fun u hu => Int.lt_of_lt_of_le (hi.fresh u hu) hcur⟩
    rw [hu3 key]
    by_cases hk : ckey m = key
    · rw [if_pos hk, hk]
    · rw [if_neg hk, h2.stacks, stackFor_cons, if_neg hk]
  case app | case | cons =>
    intro _ _ ih1 ih2 s kenv hi
    obtain ⟨_, s1, h1, h2, h3, h4⟩ := ih1 s kenv hi
    obtain ⟨_, s2, g1, g2, g3, g4⟩ := ih2 s1 kenv h2
    exact ⟨_, s2, bind_eq_ok h1 (bind_eq_ok g1 rfl), g2, Int.le_trans h3 g3,
      SameBinding.bind h4 fun _ => SameBinding.bind g4 fun _ => .pure _⟩
  case delay | force =>
    intro _ ih s kenv hi
    obtain ⟨_, s', h1, h2, h3, h4⟩ := ih s kenv hi
    exact ⟨_, s', bind_eq_ok h1 rfl, h2, h3, SameBinding.bind h4 fun _ => .pure _⟩
  case constr =>
    intro _ _ ih s kenv hi
    obtain ⟨_, s', h1, h2, h3, h4⟩ := ih s kenv hi
    exact ⟨_, s', bind_eq_ok h1 rfl, h2, h3, SameBinding.bind h4 fun _ => .pure _⟩
  -- leaves: state and invariant come back unchanged
  case const | error | builtin | nil => intros; exact ⟨_, _, rfl, ‹IInv _ _›, Int.le_refl _, SameBinding.pure _⟩

theorem internList_ok : ∀ (ts : List (Term Name)) (s : Interner) (kenv : KEnv), IInv s kenv →
    InternOk kenv s (internList ts s) (specByKeyList ckey (keysOf kenv) ts) (specNameToList (fun _ i => (i : DeBruijn)) (newsOf kenv)) :=
  internTerm_ok.2

theorem resolveKey_int : ∀ (env : List Int) (u : Int), resolveKey env u = resolve env u
  | [], _ => rfl
  | v :: env, u => by rw [resolveKey, resolve, resolveKey_int env u]

theorem specByKey_unique :
    (∀ (t : Term Name) (env : List Int), specByKey (·.unique) env t = specNameTo (fun _ i => (i : DeBruijn)) env t) ∧
    (∀ (ts : List (Term Name)) (env : List Int),
      specByKeyList (·.unique) env ts = specNameToList (fun _ i => (i : DeBruijn)) env ts) := by
  apply term_ind
  case var =>
    intro n env
    rw [specByKey_var, resolveKey_int]
    rfl
  case lam => exact fun m _ ih env => bind_congr₂ (ih (m.unique :: env)) fun _ => rfl
  case app | case | cons =>
    exact fun _ _ ih1 ih2 env => bind_congr₂ (ih1 env) fun _ => bind_congr₂ (ih2 env) fun _ => rfl
  case delay | force => exact fun _ ih env => bind_congr₂ (ih env) fun _ => rfl
  case constr => exact fun _ _ ih env => bind_congr₂ (ih env) fun _ => rfl
  case const | error | builtin | nil => intros; rfl

theorem specByKeyList_unique : ∀ (ts : List (Term Name)) (env : List Int),
    specByKeyList (·.unique) env ts = specNameToList (fun _ i => (i : DeBruijn)) env ts :=
  specByKey_unique.2

end AikenVerif.Db
