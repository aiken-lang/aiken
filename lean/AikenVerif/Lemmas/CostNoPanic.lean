import AikenVerif.Lemmas.BuiltinSafe
/-!
`BuiltinCosts::to_ex_budget` never panics on a saturated builtin — proved once, generically,
from a decidable coherence condition on the GENERATED table `Gen.costSpec`
(`costTable_ok`, by evaluating the condition on each builtin's entry).
-/
namespace AikenVerif
open Gen

def measureIdx : Measure → Nat
  | .exMem i | .exMemSem i | .asSize i | .listLen i | .literalAbs i | .listLenOrExMem i => i

def preIdx : Pre → Nat
  | .asSize i | .unwrapListPanic i | .unwrapListErr i | .unwrapInt i | .expModGuard i => i

/-- a preliminary step that cannot panic: no `unwrap()`, and `cost_as_size` only for its two builtins -/
def preOK (b : Builtin) : Pre → Bool
  | .unwrapListPanic _ => false
  | .asSize _ => b == .integerToByteString || b == .replicateByte
  | _ => true

/-- the value a measure relies on has been established by a preliminary step -/
def measureCovered (pre : List Pre) : Measure → Bool
  | .asSize i => pre.contains (.asSize i)
  | .listLen i => pre.contains (.unwrapListErr i)
  | .literalAbs i => pre.contains (.unwrapInt i)
  | _ => true

def costTableOK (b : Builtin) : Bool :=
  (costSpec b).pre.all (fun p => decide (preIdx p < b.arity) && preOK b p) &&
  ((costSpec b).memArgs ++ (costSpec b).cpuArgs).all
    (fun m => decide (measureIdx m < b.arity) && measureCovered (costSpec b).pre m)

theorem costTable_ok : ∀ b : Builtin, costTableOK b = true := by
  intro b; cases b <;> rfl

theorem getArg_ok {args : List Value} {i : Nat} (h : i < args.length) : getArg args i = .ok args[i] := by
  simp [getArg, List.getElem?_eq_getElem h]

theorem costAsSize_np (b : Builtin) (v : Value) (hb : (b == .integerToByteString || b == .replicateByte) = true) :
    NP (costAsSize b v) := by
  unfold costAsSize
  split
  · split
    · have : (b = .integerToByteString || b = .replicateByte) = true := by simpa using hb
      simp only [this, if_true]; exact NP_err
    · exact NP_ok _
  · exact NP_err

theorem preStep_np (b : Builtin) (args : List Value) (p : Pre) (hi : preIdx p < args.length) (hok : preOK b p = true) :
    NP (preStep b args p) := by
  cases p <;> simp only [preIdx] at hi <;> simp only [preStep, getArg_ok hi, Res.ok_bind]
  case asSize => exact NP_bind (costAsSize_np b _ (by simpa [preOK] using hok)) fun _ _ => NP_pure _
  case unwrapListPanic => simp [preOK] at hok
  case unwrapListErr => exact NP_bind (Value.unwrapList_np _) fun _ _ => NP_pure _
  case unwrapInt => exact NP_bind (Value.unwrapInteger_np _) fun _ _ => NP_pure _
  case expModGuard =>
    refine NP_bind (Value.unwrapInteger_np _) fun _ _ => ?_
    exact NP_ite NP_err (NP_pure _)

theorem runPre_np (b : Builtin) (args : List Value) : ∀ (ps : List Pre),
    (∀ p ∈ ps, preIdx p < args.length ∧ preOK b p = true) → NP (runPre b args ps) := by
  intro ps
  induction ps with
  | nil => intro _; exact NP_ok _
  | cons p ps ih =>
    intro h
    simp only [runPre]
    have hp := h p (by simp)
    have := preStep_np b args p hp.1 hp.2
    cases hs : preStep b args p with
    | ok u => simp only [Res.bind]; exact ih (fun q hq => h q (by simp [hq]))
    | err => intro h'; cases h'
    | panic => exact absurd hs this
    | unmodelled => intro h'; cases h'

theorem unwrapList_of_pre {b : Builtin} {args : List Value} {i : Nat} (hi : i < args.length)
    (hp : preStep b args (.unwrapListErr i) = .ok ()) : ∃ t xs, args[i] = .con (.list t xs) := by
  simp only [preStep, getArg_ok hi, Res.ok_bind, Value.unwrapList] at hp
  split at hp
  · exact ⟨_, _, by assumption⟩
  · cases hp

theorem unwrapInt_of_pre {b : Builtin} {args : List Value} {i : Nat} (hi : i < args.length)
    (hp : preStep b args (.unwrapInt i) = .ok ()) : ∃ n, args[i] = .con (.integer n) := by
  simp only [preStep, getArg_ok hi, Res.ok_bind, Value.unwrapInteger] at hp
  split at hp
  · exact ⟨_, by assumption⟩
  · cases hp

theorem measure_np (sem : Sem) (b : Builtin) (args : List Value) (pre : List Pre) (m : Measure)
    (hi : measureIdx m < args.length) (hcov : measureCovered pre m = true)
    (hpre : ∀ p ∈ pre, preStep b args p = .ok ()) : NP (measure sem b args m) := by
  cases m <;> simp only [measureIdx] at hi
  case exMem i => simp only [measure, getArg_ok hi]; exact NP_ok _
  case exMemSem i => simp only [measure, getArg_ok hi]; exact NP_ok _
  case listLenOrExMem i =>
    simp only [measure, getArg_ok hi, Res.ok_bind]
    split <;> exact NP_pure _
  case asSize i =>
    have hp := hpre (.asSize i) (by simpa [measureCovered] using hcov)
    simp only [preStep, getArg_ok hi, Res.ok_bind] at hp
    simp only [measure, getArg_ok hi, Res.ok_bind]
    cases hc : costAsSize b args[i] with
    | ok x => exact NP_pure _
    | _ => rw [hc] at hp; cases hp
  case listLen i =>
    obtain ⟨t, xs, hv⟩ := unwrapList_of_pre hi (hpre _ (by simpa [measureCovered] using hcov))
    simp only [measure, getArg_ok hi, Res.ok_bind, hv]
    exact NP_pure _
  case literalAbs i =>
    obtain ⟨n, hv⟩ := unwrapInt_of_pre hi (hpre _ (by simpa [measureCovered] using hcov))
    simp only [measure, getArg_ok hi, Res.ok_bind, hv]
    exact NP_pure _

theorem measures_np (sem : Sem) (b : Builtin) (args : List Value) (pre : List Pre) : ∀ (ms : List Measure),
    (∀ m ∈ ms, measureIdx m < args.length ∧ measureCovered pre m = true) →
    (∀ p ∈ pre, preStep b args p = .ok ()) → NP (measures sem b args ms) := by
  intro ms
  induction ms with
  | nil => intro _ _; exact NP_ok _
  | cons m ms ih =>
    intro h hpre
    simp only [measures]
    have hm := h m (by simp)
    refine NP_bind (measure_np sem b args pre m hm.1 hm.2 hpre) ?_
    intro _ _
    refine NP_bind (ih (fun q hq => h q (by simp [hq])) hpre) ?_
    intro _ _
    exact NP_pure _

theorem builtinCost_np (cm : CostModel) (sem : Sem) (b : Builtin) (args : List Value) (hl : args.length = b.arity) :
    NP (builtinCost cm sem b args) := by
  have htab := costTable_ok b
  simp only [costTableOK, Bool.and_eq_true, List.all_eq_true, decide_eq_true_eq] at htab
  obtain ⟨hpreT, hmT⟩ := htab
  unfold builtinCost
  have hrp : NP (runPre b args (costSpec b).pre) :=
    runPre_np b args _ (fun p hp => by have := hpreT p hp; exact ⟨by omega, this.2⟩)
  refine NP_bind hrp ?_
  intro u hu
  cases u
  have hmem := runPre_ok_mem b args _ hu
  have hms : ∀ ms, (∀ m ∈ ms, m ∈ (costSpec b).memArgs ++ (costSpec b).cpuArgs) → NP (measures sem b args ms) :=
    fun ms h => measures_np sem b args (costSpec b).pre ms
      (fun m hm => by have := hmT m (h m hm); exact ⟨by omega, this.2⟩) hmem
  refine NP_bind (hms _ fun m hm => List.mem_append_left _ hm) ?_
  intro ms _
  refine NP_bind (hms _ fun m hm => List.mem_append_right _ hm) ?_
  intro cs _
  refine NP_bind (by split <;> first | exact NP_ok _ | exact NP_unm) ?_
  intro memF _
  refine NP_bind (by split <;> first | exact NP_ok _ | exact NP_unm) ?_
  intro cpuF _
  split <;> first | exact NP_pure _ | exact NP_unm

end AikenVerif
