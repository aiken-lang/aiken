import AikenVerif.Lemmas.CekThreshold
/-!
Termination of the budgeted machine.  With a strictly positive CPU price on every machine step the
run of `machine.rs` halts for EVERY term, budget and slippage: the measure

  `mu a = cpu budget left · (slippage + 1) + (slippage − steps counted but not yet spent)`

strictly decreases on every `compute` transition (either one more step is counted, or the batch is
spent and the budget drops by at least the price of the step just counted), never increases on a
`return` transition (builtin prices are non-negative), and between two `compute` transitions the
context only shrinks.

At the end, the step half of the decidable checks on a cost model; the builtin half is in `CostNonneg`.
-/
namespace AikenVerif
open Gen

/-- prices are non-negative and every machine step costs at least one CPU unit (true of every
ledger cost model; checked on the cost models the real evaluator is run with by `c10-eval`) -/
structure PosCosts (cm : CostModel) (sem : Sem) : Prop where
  nonneg : NonnegCosts cm sem
  stepPos : ∀ k : StepKind, k ≠ .startUp → 1 ≤ (stepCostOf cm k).cpu

def mu (S : Nat) (a : Acct) : Nat := a.budget.cpu.toNat * (S + 1) + (S - a.counts.getD 9 0)

def rank : State → Nat
  | .compute _ _ _ => 0
  | .ret ctx _ => ctx.length + 1

theorem mu_le_of (S : Nat) (a a' : Acct) (hc : a'.counts = a.counts) (hb : a'.budget.cpu ≤ a.budget.cpu) :
    mu S a' ≤ mu S a := by
  unfold mu
  rw [hc]
  have : a'.budget.cpu.toNat ≤ a.budget.cpu.toNat := by omega
  have := Nat.mul_le_mul_right (S + 1) this
  omega

theorem pendingFrom_cpu_ge (cm : CostModel) (sem : Sem) (hn : NonnegCosts cm sem) (c : List Nat) :
    ∀ n i j, i ≤ j → j < i + n →
      (kindCost cm j).cpu * ((c.getD j 0 : Nat) : Int) ≤ (pendingFrom cm c n i).cpu := by
  intro n
  induction n with
  | zero => intro i j h1 h2; omega
  | succ n ih =>
    intro i j h1 h2
    have hrest := pendingFrom_nonneg cm sem hn c n (i + 1)
    have hhead := Int.mul_nonneg (hn.step i).2 (Int.natCast_nonneg (c.getD i 0))
    simp only [pendingFrom, ExBudget.add, ExBudget.scale, ExBudget.le, ExBudget.zero] at *
    by_cases hj : j = i
    · subst hj; omega
    · have := ih (i + 1) j (by omega) (by omega)
      omega

theorem stepAndMaybeSpend_mu (cfg : Config) (hp : PosCosts cfg.costs cfg.sem) (a a' : Acct) (k : StepKind)
    (hk : k ≠ .startUp) (hl : AcctWF a) (h : stepAndMaybeSpend cfg a k = .ok a') :
    AcctWF a' ∧ mu cfg.slippage a' < mu cfg.slippage a := by
  rw [stepAndMaybeSpend_eq cfg a k hl] at h
  have htot := a.count_total k hk hl
  split at h
  · rcases spendUnbudgeted_cases cfg.costs _ (a.count_wf k hl) with hs | hs | ⟨a1, hs, hb, hn, hl', hz⟩ <;>
      rw [hs] at h <;> cases h
    refine ⟨hl', ?_⟩
    have hp0 : 0 ≤ (pending cfg.costs a).cpu := (pendingFrom_nonneg cfg.costs cfg.sem hp.nonneg a.counts 9 0).2
    have hpos := hp.stepPos k hk
    have hcpu : a'.budget.cpu = a.budget.cpu - ((pending cfg.costs a).cpu + (stepCostOf cfg.costs k).cpu) := by
      rw [hb, eff, Acct.count_pending cfg.costs a k hk hl]; rfl
    have hx : a'.budget.cpu.toNat + 1 ≤ a.budget.cpu.toNat := by have := hn.2; omega
    have h1 := Nat.mul_le_mul_right (cfg.slippage + 1) hx
    rw [Nat.add_mul] at h1
    unfold mu
    rw [hz 9]
    omega
  · rename_i hns
    cases h
    refine ⟨a.count_wf k hl, ?_⟩
    rw [htot] at hns
    unfold mu
    rw [htot]
    show a.budget.cpu.toNat * _ + _ < _
    omega

def Decreases (S : Nat) (a : Acct) (s : State) (a' : Acct) (s' : State) : Prop :=
  AcctWF a' ∧ (mu S a' < mu S a ∨ (mu S a' ≤ mu S a ∧ rank s' < rank s))

theorem ofOutcome_next {o : Outcome (Acct × State)} {a' : Acct} {s' : State}
    (h : StepResult.ofOutcome o = .next a' s') : o = .ok (a', s') := by
  cases o with
  | ok p => cases h; rfl
  | _ => cases h

theorem step_decreases (cfg : Config) (hp : PosCosts cfg.costs cfg.sem) (a a' : Acct) (s s' : State)
    (hl : AcctWF a) (h : step cfg a s = .next a' s') :
    Decreases cfg.slippage a s a' s' := by
  cases s with
  | compute ctx env t =>
    obtain ⟨o, hspec, himpl⟩ := compute_lockstep cfg.sem (denotation cfg.sem) ctx env t
    rw [step, himpl] at h
    obtain ⟨a1, hc, hr⟩ := Outcome.bind_eq_ok (ofOutcome_next h)
    cases o with
    | none => cases hr
    | some s1 =>
      cases hr
      cases hk : termKind t with
      -- `error` is the only term former without a step kind, and the specification fails on it
      | none => cases t <;> cases hk; cases hspec
      | some k =>
        rw [hk] at hc
        obtain ⟨h1, h2⟩ := stepAndMaybeSpend_mu cfg hp a a' k (termKind_ne_startUp t k hk) hl hc
        exact ⟨h1, Or.inl h2⟩
  | ret ctx v =>
    cases ctx with
    | nil =>
      simp only [step] at h
      split at h <;> cases h
    | cons fr ctx =>
      rw [step] at h
      have hr := returnStep_returns cfg a fr ctx v
      rw [ofOutcome_next h] at hr
      obtain ⟨rfl, _, hshape⟩ := hr
      have hch := (stepCharge_nonneg cfg.costs cfg.sem hp.nonneg (.ret (fr :: ctx) v)).2
      refine ⟨hl, Or.inr ⟨mu_le_of _ _ _ rfl ?_, ?_⟩⟩
      · simp only [ExBudget.sub, ExBudget.zero] at hch ⊢
        omega
      · rcases hshape with ⟨c, e, t, rfl⟩ | ⟨w, rfl⟩ <;> simp [rank]

theorem runFrom_halts (cfg : Config) (hp : PosCosts cfg.costs cfg.sem) (a : Acct) (s : State)
    (hl : AcctWF a) : ∃ fuel, runFrom cfg fuel a s ≠ .outOfFuel := by
  cases hst : step cfg a s with
  | next a' s' =>
    obtain ⟨hl', hd⟩ := step_decreases cfg hp a a' s s' hl hst
    obtain ⟨fuel, hf⟩ := runFrom_halts cfg hp a' s' hl'
    exact ⟨fuel + 1, by simp only [runFrom, hst]; exact hf⟩
  | _ => exact ⟨1, by simp [runFrom, hst]⟩
termination_by (mu cfg.slippage a, rank s)
decreasing_by
  rcases hd with hlt | ⟨hle, hrk⟩
  · exact Prod.Lex.left _ _ hlt
  · rcases Nat.lt_or_eq_of_le hle with hlt | heq
    · exact Prod.Lex.left _ _ hlt
    · rw [heq]; exact Prod.Lex.right _ hrk

theorem mem_allKinds (k : StepKind) : k ∈ allKinds := by cases k <;> simp [allKinds]

theorem kindOK_sound (cm : CostModel) (k : StepKind) (h : kindOK cm k = true) :
    0 ≤ (stepCostOf cm k).mem ∧ 0 ≤ (stepCostOf cm k).cpu ∧ (k ≠ .startUp → 1 ≤ (stepCostOf cm k).cpu) := by
  unfold kindOK at h
  unfold stepCostOf
  cases hc : cm.machineCost k with
  | none => rw [hc] at h; cases h
  | some c =>
    rw [hc] at h
    simp only [Bool.and_eq_true, Bool.or_eq_true, decide_eq_true_eq, beq_iff_eq] at h
    obtain ⟨⟨h1, h2⟩, h3⟩ := h
    refine ⟨h1, h2, ?_⟩
    intro hk
    rcases h3 with h3 | h3
    · exact absurd h3 hk
    · exact h3

theorem stepsPositive_sound (cm : CostModel) (h : stepsPositive cm = true) :
    (∀ k : StepKind, k ≠ .startUp → 1 ≤ (stepCostOf cm k).cpu) ∧ (∀ i, ExBudget.le .zero (kindCost cm i)) := by
  have hall : ∀ k, kindOK cm k = true := fun k => List.all_eq_true.mp h k (mem_allKinds k)
  constructor
  · intro k hk; exact (kindOK_sound cm k (hall k)).2.2 hk
  · intro i
    unfold kindCost
    cases hk : StepKind.ofTag i with
    | none => simp [ExBudget.le, ExBudget.zero]
    | some k =>
      have := kindOK_sound cm k (hall k)
      simp only [stepCostOf] at this
      simp only [ExBudget.le, ExBudget.zero]
      exact ⟨this.1, this.2.1⟩

theorem posCosts_of (cm : CostModel) (sem : Sem) (h : stepsPositive cm = true)
    (hb : ∀ b args c, builtinCost cm sem b args = .ok c → ExBudget.le .zero c) : PosCosts cm sem :=
  ⟨⟨(stepsPositive_sound cm h).2, hb⟩, (stepsPositive_sound cm h).1⟩

end AikenVerif
