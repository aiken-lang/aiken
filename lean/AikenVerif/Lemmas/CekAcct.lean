import AikenVerif.Lemmas.CekBasic
/-!
`spend_budget`, `spend_unbudgeted_steps` and `step_and_maybe_spend` of `machine.rs`.  Whatever the
slippage, counting a step lowers `eff` (the budget minus the cost of the steps counted but not yet
spent) by exactly that step's cost.
-/
namespace AikenVerif
open Gen

namespace ExBudget
def zero : ExBudget := ⟨0, 0⟩
def add (x y : ExBudget) : ExBudget := ⟨x.mem + y.mem, x.cpu + y.cpu⟩
def sub (x y : ExBudget) : ExBudget := ⟨x.mem - y.mem, x.cpu - y.cpu⟩
def scale (x : ExBudget) (n : Nat) : ExBudget := ⟨x.mem * (n : Int), x.cpu * (n : Int)⟩
@[ext] theorem ext' {x y : ExBudget} (h1 : x.mem = y.mem) (h2 : x.cpu = y.cpu) : x = y := by
  cases x; cases y; simp_all

theorem sub_zero (x : ExBudget) : x.sub .zero = x :=
  ext' (Int.sub_zero _) (Int.sub_zero _)

theorem sub_add (x y z : ExBudget) : x.sub (y.add z) = (x.sub y).sub z :=
  ext' (Int.sub_sub ..).symm (Int.sub_sub ..).symm

theorem sub_sub_self (x y : ExBudget) : x.sub (x.sub y) = y :=
  ext' (Int.sub_sub_self ..) (Int.sub_sub_self ..)

theorem add_assoc (x y z : ExBudget) : (x.add y).add z = x.add (y.add z) :=
  ext' (Int.add_assoc ..) (Int.add_assoc ..)

theorem add_right_comm (x y z : ExBudget) : (x.add y).add z = (x.add z).add y :=
  ext' (Int.add_right_comm ..) (Int.add_right_comm ..)

theorem scale_succ (x : ExBudget) (n : Nat) : x.scale (n + 1) = (x.scale n).add x := by
  simp only [scale, add, Int.natCast_succ, Int.mul_add, Int.mul_one]
end ExBudget

def NonNeg (b : ExBudget) : Prop := 0 ≤ b.mem ∧ 0 ≤ b.cpu

/-- shape invariant of `Machine::unbudgeted_steps` -/
def AcctWF (a : Acct) : Prop := a.counts.length = Gen.unbudgetedLen

theorem AcctWF.len {a : Acct} (h : AcctWF a) : a.counts.length = 10 := h

/-- the outcome is a result satisfying `P`, `oob` or `unmodelled`: never `fail` or `panic` -/
def Benign {α} (P : α → Prop) : Outcome α → Prop
  | .ok a => P a
  | .oob => True
  | .unmodelled => True
  | .fail => False
  | .panic => False

theorem Benign.imp {α} {P Q : α → Prop} {o : Outcome α} (h : ∀ a, P a → Q a) (ho : Benign P o) : Benign Q o := by
  cases o with
  | ok a => exact h a ho
  | _ => exact ho

theorem ofTag_some : ∀ i, i < 9 → ∃ k, StepKind.ofTag i = some k :=
  fun i hi => Option.isSome_iff_exists.mp ((by decide : ∀ i, i < 9 → (StepKind.ofTag i).isSome) i hi)

theorem tag_lt (k : StepKind) (h : k ≠ .startUp) : k.tag < 9 := by
  cases k <;> first | (exact absurd rfl h) | decide

theorem ofTag_tag (k : StepKind) (h : k ≠ .startUp) : StepKind.ofTag k.tag = some k := by
  cases k <;> first | (exact absurd rfl h) | rfl

theorem spendBudget_cases (a : Acct) (c : ExBudget) :
    spendBudget a c = .ok ⟨a.budget.sub c, a.counts⟩ ∧ NonNeg (a.budget.sub c) ∨
    spendBudget a c = .oob ∧ ¬ NonNeg (a.budget.sub c) := by
  unfold spendBudget
  simp only [NonNeg, ExBudget.sub]
  split
  · rename_i h
    simp only [Bool.or_eq_true, decide_eq_true_eq] at h
    exact Or.inr ⟨rfl, by omega⟩
  · rename_i h
    simp only [Bool.or_eq_true, decide_eq_true_eq, not_or, Int.not_lt] at h
    exact Or.inl ⟨rfl, h⟩

/-- what `spend_unbudgeted_steps` charges per unit of counter `i`, a `u8` step-kind tag -/
def kindCost (cm : CostModel) (i : Nat) : ExBudget :=
  match StepKind.ofTag i with
  | some k => (cm.machineCost k).getD .zero
  | none => .zero

/-- One turn of the loop: the only four things it can do.  All later facts about `spendLoop` go through this. -/
theorem spendLoop_succ (cm : CostModel) (n i : Nat) (a : Acct) :
    (spendLoop cm (n + 1) i a = .fail ∧ 9 ≤ i) ∨ spendLoop cm (n + 1) i a = .unmodelled ∨
    (spendLoop cm (n + 1) i a = .oob ∧
      ¬ NonNeg (a.budget.sub ((kindCost cm i).scale (a.counts.getD i 0)))) ∨
    (spendLoop cm (n + 1) i a =
        spendLoop cm n (i + 1) ⟨a.budget.sub ((kindCost cm i).scale (a.counts.getD i 0)), a.counts.set i 0⟩ ∧
      NonNeg (a.budget.sub ((kindCost cm i).scale (a.counts.getD i 0)))) := by
  cases hk : StepKind.ofTag i with
  | none =>
    refine Or.inl ⟨by simp only [spendLoop, hk], Nat.le_of_not_lt fun hi => ?_⟩
    obtain ⟨k, hk'⟩ := ofTag_some i hi
    rw [hk] at hk'
    cases hk'
  | some k =>
    cases hc : cm.machineCost k with
    | none => exact Or.inr (Or.inl (by simp only [spendLoop, hk, hc]))
    | some c =>
      have hkc : kindCost cm i = c := by simp only [kindCost, hk, hc, Option.getD_some]
      have hs : spendLoop cm (n + 1) i a = (spendBudget a (c.scale (a.counts.getD i 0))).bind fun a' =>
          spendLoop cm n (i + 1) { a' with counts := a'.counts.set i 0 } := by
        simp only [spendLoop, hk, hc]; rfl
      rw [hs, hkc]
      rcases spendBudget_cases a (c.scale (a.counts.getD i 0)) with ⟨h, hn⟩ | ⟨h, hn⟩
      · exact Or.inr (Or.inr (Or.inr ⟨by rw [h]; rfl, hn⟩))
      · exact Or.inr (Or.inr (Or.inl ⟨by rw [h]; rfl, hn⟩))

/-- cost of the steps counted in `counts[i .. i+n)` -/
def pendingFrom (cm : CostModel) (counts : List Nat) : Nat → Nat → ExBudget
  | 0, _ => .zero
  | n + 1, i => ((kindCost cm i).scale (counts.getD i 0)).add (pendingFrom cm counts n (i + 1))

def pending (cm : CostModel) (a : Acct) : ExBudget := pendingFrom cm a.counts 9 0

def eff (cm : CostModel) (a : Acct) : ExBudget := a.budget.sub (pending cm a)

theorem pendingFrom_congr (cm : CostModel) (c1 c2 : List Nat) : ∀ (n i : Nat),
    (∀ j, i ≤ j → j < i + n → c1.getD j 0 = c2.getD j 0) → pendingFrom cm c1 n i = pendingFrom cm c2 n i := by
  intro n
  induction n with
  | zero => intro i _; rfl
  | succ n ih =>
    intro i h
    simp only [pendingFrom]
    rw [h i (Nat.le_refl _) (by omega), ih (i + 1) (fun j h1 h2 => h j (by omega) (by omega))]

theorem pendingFrom_nil (cm : CostModel) : ∀ (n i : Nat), pendingFrom cm [] n i = .zero := by
  intro n
  induction n with
  | zero => intro i; rfl
  | succ n ih =>
    intro i
    rw [pendingFrom, ih]
    simp [ExBudget.scale, ExBudget.add, ExBudget.zero]

theorem pendingFrom_zero (cm : CostModel) (c : List Nat) : ∀ (n i : Nat),
    (∀ j, i ≤ j → j < i + n → c.getD j 0 = 0) → pendingFrom cm c n i = .zero :=
  fun n i h => (pendingFrom_congr cm c [] n i h).trans (pendingFrom_nil cm n i)

theorem pending_of_zero (cm : CostModel) (a : Acct) (h : ∀ j, a.counts.getD j 0 = 0) : pending cm a = .zero :=
  pendingFrom_zero cm a.counts 9 0 (fun j _ _ => h j)

theorem getD_set (c : List Nat) (i j v : Nat) :
    (c.set i v).getD j 0 = if j = i ∧ i < c.length then v else c.getD j 0 := by
  simp only [List.getD_eq_getElem?_getD, List.getElem?_set]
  by_cases h : i = j
  · subst h
    by_cases hl : i < c.length
    · simp [hl]
    · simp [hl]
  · have : ¬ (j = i ∧ i < c.length) := by intro h'; exact h h'.1.symm
    simp [h, this]

theorem getD_modify (c : List Nat) (i j : Nat) (f : Nat → Nat) :
    (c.modify i f).getD j 0 = if j = i ∧ i < c.length then f (c.getD i 0) else c.getD j 0 := by
  rw [List.modify_eq_set, getD_set]
  rfl

theorem spendLoop_ok (cm : CostModel) : ∀ (n i : Nat) (a a' : Acct), i + n ≤ a.counts.length →
    spendLoop cm n i a = .ok a' →
      a'.budget = a.budget.sub (pendingFrom cm a.counts n i) ∧
      a'.counts.length = a.counts.length ∧
      (∀ j, i ≤ j → j < i + n → a'.counts.getD j 0 = 0) ∧
      (∀ j, (j < i ∨ i + n ≤ j) → a'.counts.getD j 0 = a.counts.getD j 0) := by
  intro n
  induction n with
  | zero =>
    intro i a a' _ h
    cases h
    exact ⟨(ExBudget.sub_zero _).symm, rfl, fun j h1 h2 => by omega, fun j _ => rfl⟩
  | succ n ih =>
    intro i a a' hlen h
    rcases spendLoop_succ cm n i a with ⟨hs, _⟩ | hs | ⟨hs, _⟩ | ⟨hs, _⟩ <;> rw [hs] at h
    · cases h
    · cases h
    · cases h
    · obtain ⟨h1, h2, h3, h4⟩ := ih (i + 1) _ a' (by rw [List.length_set]; omega) h
      have hrest : ∀ j, j ≠ i → (a.counts.set i 0).getD j 0 = a.counts.getD j 0 := by
        intro j hj; rw [getD_set, if_neg (fun h => hj h.1)]
      refine ⟨?_, by rw [h2, List.length_set], ?_, ?_⟩
      · rw [h1, pendingFrom, ExBudget.sub_add,
          pendingFrom_congr cm (a.counts.set i 0) a.counts n (i + 1) (fun j hj _ => hrest j (by omega))]
      · intro j hj1 hj2
        by_cases hji : j = i
        · rw [hji, h4 i (Or.inl (by omega)), getD_set, if_pos ⟨rfl, by omega⟩]
        · exact h3 j (by omega) (by omega)
      · intro j hj
        rw [h4 j (by omega), hrest j (by omega)]

/-- Every turn that succeeds leaves a non-negative budget, so after at least one turn (`0 < n`) the
start budget need not be non-negative. -/
theorem spendLoop_benign (cm : CostModel) : ∀ (n i : Nat) (a : Acct), i + n ≤ 9 →
    Benign (fun a' => NonNeg a.budget ∨ 0 < n → NonNeg a'.budget) (spendLoop cm n i a) := by
  intro n
  induction n with
  | zero => intro i a _ h; exact h.elim id (fun h => absurd h (Nat.lt_irrefl 0))
  | succ n ih =>
    intro i a hi
    rcases spendLoop_succ cm n i a with ⟨_, h9⟩ | hs | ⟨hs, _⟩ | ⟨hs, hn⟩
    · omega
    · rw [hs]; trivial
    · rw [hs]; trivial
    · rw [hs]
      exact (ih (i + 1) _ (by omega)).imp fun a' h _ => h (Or.inl hn)

theorem spendUnbudgeted_cases (cm : CostModel) (a : Acct) (ha : AcctWF a) :
    spendUnbudgeted cm a = .unmodelled ∨ spendUnbudgeted cm a = .oob ∨
    ∃ a', spendUnbudgeted cm a = .ok a' ∧ a'.budget = eff cm a ∧ NonNeg a'.budget ∧
      AcctWF a' ∧ ∀ j, a'.counts.getD j 0 = 0 := by
  have hl := ha.len
  unfold spendUnbudgeted
  rw [hl]
  have hb := spendLoop_benign cm 9 0 a (Nat.le_refl 9)
  cases hs : spendLoop cm 9 0 a with
  | ok a1 =>
    rw [hs] at hb
    obtain ⟨h1, h2, h3, _⟩ := spendLoop_ok cm 9 0 a a1 (by omega) hs
    refine Or.inr (Or.inr ⟨_, rfl, h1, hb (Or.inr (by decide)), (List.length_set ..).trans (h2.trans hl), fun j => ?_⟩)
    rw [getD_set]
    split
    · rfl
    · by_cases hj : j < 9
      · exact h3 j (Nat.zero_le j) (by omega)
      · rw [List.getD_eq_getElem?_getD, List.getElem?_eq_none (by omega)]; rfl
  | oob => exact Or.inr (Or.inl rfl)
  | unmodelled => exact Or.inl rfl
  | fail => rw [hs] at hb; exact hb.elim
  | panic => rw [hs] at hb; exact hb.elim

theorem spendUnbudgeted_benign (cm : CostModel) (a : Acct) (h : AcctWF a) :
    Benign AcctWF (spendUnbudgeted cm a) := by
  rcases spendUnbudgeted_cases cm a h with hs | hs | ⟨a', hs, _, _, hl, _⟩ <;> rw [hs]
  · trivial
  · trivial
  · exact hl

def stepCostOf (cm : CostModel) (k : StepKind) : ExBudget := (cm.machineCost k).getD .zero

theorem kindCost_tag (cm : CostModel) (k : StepKind) (h : k ≠ .startUp) : kindCost cm k.tag = stepCostOf cm k := by
  simp only [kindCost, ofTag_tag k h, stepCostOf]

theorem pendingFrom_bump (cm : CostModel) (c : List Nat) (t : Nat) (ht : t < c.length) : ∀ (n i : Nat),
    i ≤ t → t < i + n →
    pendingFrom cm (c.modify t (· + 1)) n i = (pendingFrom cm c n i).add (kindCost cm t) := by
  intro n
  induction n with
  | zero => intro i h1 h2; omega
  | succ n ih =>
    intro i h1 h2
    simp only [pendingFrom]
    rw [getD_modify]
    by_cases hit : i = t
    · subst hit
      rw [if_pos ⟨rfl, ht⟩, ExBudget.scale_succ, ExBudget.add_right_comm,
        pendingFrom_congr cm _ c n (i + 1) (fun j hj _ => by rw [getD_modify, if_neg (by omega)])]
    · rw [if_neg (fun h => hit h.1), ih (i + 1) (by omega) (by omega), ExBudget.add_assoc]

/-- `step_and_maybe_spend` counts the step under its kind and in the last counter, the total -/
def Acct.count (a : Acct) (k : StepKind) : Acct :=
  { a with counts := (a.counts.modify k.tag (· + 1)).modify (a.counts.length - 1) (· + 1) }

theorem stepAndMaybeSpend_eq (cfg : Config) (a : Acct) (k : StepKind) (ha : AcctWF a) :
    stepAndMaybeSpend cfg a k =
      if (a.count k).counts.getD 9 0 ≥ cfg.slippage then spendUnbudgeted cfg.costs (a.count k) else .ok (a.count k) := by
  unfold stepAndMaybeSpend Acct.count
  rw [ha.len]

theorem Acct.count_wf (a : Acct) (k : StepKind) (ha : AcctWF a) : AcctWF (a.count k) := by
  simp only [AcctWF, Acct.count, List.length_modify]
  exact ha

theorem Acct.count_total (a : Acct) (k : StepKind) (hk : k ≠ .startUp) (ha : AcctWF a) :
    (a.count k).counts.getD 9 0 = a.counts.getD 9 0 + 1 := by
  have hl := ha.len
  have := tag_lt k hk
  simp only [Acct.count, hl]
  rw [getD_modify, if_pos ⟨rfl, by rw [List.length_modify, hl]; decide⟩, getD_modify, if_neg (by omega)]

theorem Acct.count_pending (cm : CostModel) (a : Acct) (k : StepKind) (hk : k ≠ .startUp) (ha : AcctWF a) :
    pending cm (a.count k) = (pending cm a).add (stepCostOf cm k) := by
  have hl := ha.len
  have ht := tag_lt k hk
  simp only [pending, Acct.count, hl]
  rw [pendingFrom_congr cm _ (a.counts.modify k.tag (· + 1)) 9 0
      (fun j _ hj => by rw [getD_modify, if_neg (by omega)]),
    pendingFrom_bump cm a.counts k.tag (by omega) 9 0 (Nat.zero_le _) (by omega), kindCost_tag cm k hk]

/-- What every step of a run preserves.  `zero`: when the total counter (slot 9) is 0, as after a
spend, no step is counted and unspent, so `eff` is the budget itself. -/
structure AcctInv (cm : CostModel) (a : Acct) : Prop where
  len : a.counts.length = 10
  zero : a.counts.getD 9 0 = 0 → pending cm a = .zero
  nonneg : NonNeg a.budget

theorem spendBudget_inv (cm : CostModel) (a : Acct) (c : ExBudget) (hi : AcctInv cm a)
    (hn : NonNeg (a.budget.sub c)) :
    eff cm ⟨a.budget.sub c, a.counts⟩ = (eff cm a).sub c ∧ AcctInv cm ⟨a.budget.sub c, a.counts⟩ := by
  refine ⟨?_, hi.len, hi.zero, hn⟩
  simp only [eff, pending]
  ext <;> simp only [ExBudget.sub] <;> omega

theorem stepAndMaybeSpend_eff (cfg : Config) (a a' : Acct) (k : StepKind) (hk : k ≠ .startUp)
    (hi : AcctInv cfg.costs a) (h : stepAndMaybeSpend cfg a k = .ok a') :
    eff cfg.costs a' = (eff cfg.costs a).sub (stepCostOf cfg.costs k) ∧ AcctInv cfg.costs a' := by
  have heff : eff cfg.costs (a.count k) = (eff cfg.costs a).sub (stepCostOf cfg.costs k) := by
    simp only [eff, Acct.count_pending cfg.costs a k hk hi.len, ExBudget.sub_add]; rfl
  rw [stepAndMaybeSpend_eq cfg a k hi.len] at h
  split at h
  · rcases spendUnbudgeted_cases cfg.costs _ (a.count_wf k hi.len) with hs | hs | ⟨a1, hs, hb, hn, hl, hz⟩ <;>
      rw [hs] at h <;> cases h
    have hp := pending_of_zero cfg.costs a' hz
    exact ⟨by rw [← heff, ← hb, eff, hp, ExBudget.sub_zero], hl, fun _ => hp, hn⟩
  · cases h
    refine ⟨heff, a.count_wf k hi.len, fun h0 => ?_, hi.nonneg⟩
    rw [a.count_total k hk hi.len] at h0
    omega

theorem stepAndMaybeSpend_benign (cfg : Config) (a : Acct) (k : StepKind) (h : AcctWF a) :
    Benign AcctWF (stepAndMaybeSpend cfg a k) := by
  rw [stepAndMaybeSpend_eq cfg a k h]
  split
  · exact spendUnbudgeted_benign cfg.costs _ (a.count_wf k h)
  · exact a.count_wf k h

theorem chargeStep_benign (cfg : Config) (a : Acct) (k : Option StepKind) (h : AcctWF a) :
    Benign AcctWF (chargeStep cfg a k) := by
  cases k with
  | none => exact h
  | some k => exact stepAndMaybeSpend_benign cfg a k h

end AikenVerif
