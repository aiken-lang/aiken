import AikenVerif.Lemmas.TextBasics
/-! Helper lemmas for C15: types, data and constants (token level).  Soft breaks occur in list types only, so the
layout reaches a constant through its type; data and the elements of lists and pairs are printed in one way. -/
namespace AikenVerif.Text
open AikenVerif.Gen.TextTables

@[simp] theorem skipWs_lpar (r : List Token) : skipWs (.lpar :: r) = .lpar :: r := rfl
@[simp] theorem skipWs_rpar (r : List Token) : skipWs (.rpar :: r) = .rpar :: r := rfl
@[simp] theorem skipWs_lbrack (r : List Token) : skipWs (.lbrack :: r) = .lbrack :: r := rfl
@[simp] theorem skipWs_rbrack (r : List Token) : skipWs (.rbrack :: r) = .rbrack :: r := rfl
@[simp] theorem skipWs_comma (r : List Token) : skipWs (.comma :: r) = .comma :: r := rfl
@[simp] theorem skipWs_unit (r : List Token) : skipWs (.unit :: r) = .unit :: r := rfl
@[simp] theorem skipWs_word (w) (r : List Token) : skipWs (.word w :: r) = .word w :: r := rfl
@[simp] theorem skipWs_hash (w) (r : List Token) : skipWs (.hash w :: r) = .hash w :: r := rfl
@[simp] theorem skipWs_str (w) (r : List Token) : skipWs (.str w :: r) = .str w :: r := rfl
@[simp] theorem skipWs_ws (r : List Token) : skipWs (.ws :: r) = skipWs r := rfl
@[simp] theorem skipWs_nil : skipWs [] = [] := rfl
@[simp] theorem reqWs_ws (r : List Token) : reqWs (.ws :: r) = some (skipWs r) := rfl

/-- begins with a token other than `ws`: on printed items the `skipWs` the parsers do before each item is the identity -/
def NoLeadWs (l : List Token) : Prop := ∃ tk r, l = tk :: r ∧ tk ≠ .ws

theorem skipWs_of_noLeadWs {l : List Token} (h : NoLeadWs l) (rest : List Token) :
    skipWs (l ++ rest) = l ++ rest := by
  obtain ⟨tk, r, rfl, hne⟩ := h
  cases tk <;> simp_all

theorem NoLeadWs.length_pos {l : List Token} (h : NoLeadWs l) : 1 ≤ l.length := by
  obtain ⟨tk, r, rfl, -⟩ := h
  simp

theorem NoLeadWs.append {l : List Token} (h : NoLeadWs l) (m : List Token) : NoLeadWs (l ++ m) := by
  obtain ⟨tk, r, rfl, hne⟩ := h
  exact ⟨tk, r ++ m, by simp, hne⟩

/-- `type_names_roundtrip` on the generated tables -/
theorem tyAtomOfWord_display : ∀ a : TyAtom, tyAtomOfWord (chars (tyDisplay a)) = some a := by
  intro a; cases a <;> decide

theorem tyList_kw : chars tyListDisplay = chars tyListParse := by decide
theorem tyPair_kw : chars tyPairDisplay = chars tyPairParse := by decide

theorem printTy_length_pos (t : Ty) : 1 ≤ (printTy t).length := by
  cases t <;> simp [printTy]

theorem parseTy_ws (f : Nat) (l : List Token) : parseTy f (.ws :: l) = parseTy f l := by
  cases f <;> rfl

theorem parseTy_atom (a : TyAtom) (f : Nat) (rest : List Token) :
    parseTy (f + 1) (.word (chars (tyDisplay a)) :: rest) = some (tyOfAtom a, rest) := by
  simp [parseTy, tyAtomOfWord_display]

@[simp] theorem skipWs_soft (b : Bool) (rest : List Token) : skipWs (soft b ++ .rpar :: rest) = .rpar :: rest := by
  cases b <;> rfl

theorem soft_length (b : Bool) : (soft b).length ≤ 1 := by cases b <;> simp [soft]

theorem printTyL_noLeadWs (w : Layout) (p : List Nat) (t : Ty) : NoLeadWs (printTyL w p t) := by
  cases t <;> exact ⟨_, _, rfl, by simp⟩

theorem parseTy_printTyL (w : Layout) (t : Ty) : ∀ (p : List Nat) (f : Nat) (rest : List Token),
    (printTyL w p t).length ≤ f → parseTy f (printTyL w p t ++ rest) = some (t, rest) := by
  induction t with
  | list t ih =>
    intro p f rest hf
    simp [printTyL] at hf
    obtain ⟨g, rfl, hg⟩ := fuel_succ hf
    have ih := fun r => ih (0 :: p) g r (by omega)
    simp [printTyL, parseTy, tyList_kw, skipWs_of_noLeadWs, printTyL_noLeadWs, ih]
  | pair a b iha ihb =>
    intro p f rest hf
    simp [printTyL] at hf
    obtain ⟨g, rfl, hg⟩ := fuel_succ hf
    have iha := fun r => iha (0 :: p) g r (by omega)
    have ihb := fun r => ihb (1 :: p) g r (by omega)
    have hne : chars tyPairParse ≠ chars tyListParse := by decide
    simp [printTyL, parseTy, tyPair_kw, hne, skipWs_of_noLeadWs, printTyL_noLeadWs, iha, ihb]
  | _ =>
    intro p f rest hf
    obtain ⟨g, rfl, -⟩ := fuel_succ hf
    simp only [printTyL, printTy, List.cons_append, List.nil_append, parseTy_atom, tyOfAtom]

theorem printTyL_flat (t : Ty) : ∀ p, printTyL (fun _ => false) p t = printTy t := by
  induction t with
  | list t ih => intro p; simp [printTyL, printTy, soft, ih]
  | pair a b iha ihb => intro p; simp [printTyL, printTy, iha, ihb]
  | _ => intro p; simp [printTyL]

theorem parseTy_printTy (t : Ty) (f : Nat) (rest : List Token) (hf : (printTy t).length ≤ f) :
    parseTy f (printTy t ++ rest) = some (t, rest) := by
  rw [← printTyL_flat t []] at hf ⊢
  exact parseTy_printTyL _ t [] f rest hf

theorem dataKindOfWord_kw : ∀ k : DataKind, dataKindOfWord (kwData k) = some k := by
  intro k; cases k <;> decide

theorem parseComma_sep {l : List Token} (h : NoLeadWs l) (rest : List Token) :
    parseComma (sepTokens ++ (l ++ rest)) = some (l ++ rest) := by
  simp [parseComma, sepTokens, skipWs_of_noLeadWs h]

@[simp] theorem parseComma_rbrack (r : List Token) : parseComma (.rbrack :: r) = none := rfl
@[simp] theorem parseComma_rpar (r : List Token) : parseComma (.rpar :: r) = none := rfl

/-- what the printer emits after the first item, each behind its separator: what the parser's `…More` loop reads
(so too `printPairsTail`, `printElemsTail`) -/
def printDataTail : List Data → List Token
  | [] => []
  | d :: ds => sepTokens ++ printData d ++ printDataTail ds

theorem printDataList_cons (d : Data) (ds : List Data) :
    printDataList (d :: ds) = printData d ++ printDataTail ds := by
  induction ds generalizing d with
  | nil => simp [printDataList, printDataTail]
  | cons e es ih => simp [printDataList, printDataTail, ih e]

def printPair (e : Data × Data) : List Token :=
  [.lpar] ++ printData e.1 ++ sepTokens ++ printData e.2 ++ [.rpar]

def printPairsTail : List (Data × Data) → List Token
  | [] => []
  | e :: es => sepTokens ++ printPair e ++ printPairsTail es

theorem printDataPairs_cons (e : Data × Data) (es : List (Data × Data)) :
    printDataPairs (e :: es) = printPair e ++ printPairsTail es := by
  induction es generalizing e with
  | nil => obtain ⟨k, v⟩ := e; simp [printDataPairs, printPairsTail, printPair]
  | cons e' es ih =>
    obtain ⟨k, v⟩ := e
    simp [printDataPairs, printPairsTail, printPair, ih e']

theorem printData_head (d : Data) : ∃ k r, printData d = .word (kwData k) :: .ws :: r := by
  cases d <;> exact ⟨_, _, rfl⟩

theorem printData_noLeadWs (d : Data) : NoLeadWs (printData d) := by
  obtain ⟨k, r, e⟩ := printData_head d
  exact ⟨_, _, e, by simp⟩

theorem printData_length (d : Data) : 3 ≤ (printData d).length := by
  cases d <;> simp [printData] <;> omega

theorem printPair_length (e : Data × Data) : 9 ≤ (printPair e).length := by
  have := printData_length e.1; have := printData_length e.2
  simp [printPair, sepTokens]; omega

theorem parseData_rbrack (f : Nat) (r : List Token) : parseData f (.rbrack :: r) = none := by
  cases f <;> rfl

theorem parseDataPair_rbrack (f : Nat) (r : List Token) : parseDataPair f (.rbrack :: r) = none := by
  cases f <;> rfl

theorem parseDataBracket_nil (f : Nat) (rest : List Token) :
    parseDataBracket (f + 1) (.lbrack :: .rbrack :: rest) = some ([], rest) := by
  simp [parseDataBracket, parseData_rbrack]

theorem parsePairsBracket_nil (f : Nat) (rest : List Token) :
    parsePairsBracket (f + 1) (.lbrack :: .rbrack :: rest) = some ([], rest) := by
  simp [parsePairsBracket, parseDataPair_rbrack]

theorem printPair_noLeadWs (e : Data × Data) : NoLeadWs (printPair e) :=
  ⟨.lpar, printData e.1 ++ sepTokens ++ printData e.2 ++ [.rpar], by simp [printPair], by simp⟩

mutual
  /-- `data_text_roundtrip` (with the rest of the input and explicit fuel) -/
  theorem parseData_print : (d : Data) → ∀ (f : Nat) (rest : List Token), dataOk d = true →
      (printData d).length ≤ f → parseData f (printData d ++ rest) = some (d, rest)
    | .constr tag fs => by
      intro f rest hok hf
      simp [dataOk] at hok
      simp [printData] at hf
      obtain ⟨g, rfl, hg⟩ := fuel_succ hf
      have hb := parseDataBracket_print fs g rest hok.2 (by omega)
      simp [printData, parseData, dataKindOfWord_kw, parseDecimal_natChars tag hok.1, hb]
    | .map es => by
      intro f rest hok hf
      simp [dataOk] at hok
      simp [printData] at hf
      obtain ⟨g, rfl, hg⟩ := fuel_succ hf
      have hb := parsePairsBracket_print es g rest hok (by omega)
      simp [printData, parseData, dataKindOfWord_kw, hb]
    | .list xs => by
      intro f rest hok hf
      simp [dataOk] at hok
      simp [printData] at hf
      obtain ⟨g, rfl, hg⟩ := fuel_succ hf
      have hb := parseDataBracket_print xs g rest hok (by omega)
      simp [printData, parseData, dataKindOfWord_kw, hb]
    | .int _ | .bytes _ => by
      intro f rest _ hf
      simp [printData] at hf
      obtain ⟨g, rfl, hg⟩ := fuel_succ hf
      simp [printData, parseData, dataKindOfWord_kw, parseBigNumber_intChars, hexDecode_hexChars]
  theorem parseDataBracket_print : (ds : List Data) → ∀ (f : Nat) (rest : List Token), dataListOk ds = true →
      (printDataList ds).length + 2 ≤ f →
      parseDataBracket f (.lbrack :: (printDataList ds ++ .rbrack :: rest)) = some (ds, rest)
    | [] => by
      intro f rest _ hf
      obtain ⟨g, rfl, hg⟩ := fuel_succ hf
      simpa [printDataList] using parseDataBracket_nil g rest
    | d :: ds => by
      intro f rest hok hf
      simp [dataListOk] at hok
      obtain ⟨g, rfl, hg⟩ := fuel_succ hf
      rw [printDataList_cons] at hf
      have := printData_length d
      simp at hf
      have hd := fun r => parseData_print d g r hok.1 (by omega)
      have hm := parseDataMore_print ds g rest hok.2 (by omega)
      simp [printDataList_cons, parseDataBracket, skipWs_of_noLeadWs, printData_noLeadWs, hd, hm]
  theorem parseDataMore_print : (ds : List Data) → ∀ (f : Nat) (rest : List Token), dataListOk ds = true →
      (printDataTail ds).length + 1 ≤ f →
      parseDataMore f (printDataTail ds ++ .rbrack :: rest) = some (ds, .rbrack :: rest)
    | [] => by
      intro f rest _ hf
      obtain ⟨g, rfl, hg⟩ := fuel_succ hf
      simp [printDataTail, parseDataMore]
    | d :: ds => by
      intro f rest hok hf
      simp [dataListOk] at hok
      obtain ⟨g, rfl, hg⟩ := fuel_succ hf
      simp [printDataTail, sepTokens] at hf
      have hd := fun r => parseData_print d g r hok.1 (by omega)
      have hm := parseDataMore_print ds g rest hok.2 (by omega)
      simp [printDataTail, parseDataMore, parseComma_sep, printData_noLeadWs, hd, hm]
  theorem parsePairsBracket_print : (es : List (Data × Data)) → ∀ (f : Nat) (rest : List Token),
      dataPairsOk es = true → (printDataPairs es).length + 2 ≤ f →
      parsePairsBracket f (.lbrack :: (printDataPairs es ++ .rbrack :: rest)) = some (es, rest)
    | [] => by
      intro f rest _ hf
      obtain ⟨g, rfl, hg⟩ := fuel_succ hf
      simpa [printDataPairs] using parsePairsBracket_nil g rest
    | (k, v) :: es => by
      intro f rest hok hf
      simp [dataPairsOk] at hok
      obtain ⟨g, rfl, hg⟩ := fuel_succ hf
      rw [printDataPairs_cons] at hf
      have := printPair_length (k, v)
      simp at hf
      have hd := fun r => parseDataPair_print (k, v) g r hok.1.1 hok.1.2 (by omega)
      have hm := parsePairsMore_print es g rest hok.2 (by omega)
      simp [printDataPairs_cons, parsePairsBracket, skipWs_of_noLeadWs, printPair_noLeadWs, hd, hm]
  theorem parsePairsMore_print : (es : List (Data × Data)) → ∀ (f : Nat) (rest : List Token),
      dataPairsOk es = true → (printPairsTail es).length + 1 ≤ f →
      parsePairsMore f (printPairsTail es ++ .rbrack :: rest) = some (es, .rbrack :: rest)
    | [] => by
      intro f rest _ hf
      obtain ⟨g, rfl, hg⟩ := fuel_succ hf
      simp [printPairsTail, parsePairsMore]
    | (k, v) :: es => by
      intro f rest hok hf
      simp [dataPairsOk] at hok
      obtain ⟨g, rfl, hg⟩ := fuel_succ hf
      simp [printPairsTail, sepTokens] at hf
      have hd := fun r => parseDataPair_print (k, v) g r hok.1.1 hok.1.2 (by omega)
      have hm := parsePairsMore_print es g rest hok.2 (by omega)
      simp [printPairsTail, parsePairsMore, parseComma_sep, printPair_noLeadWs, hd, hm]
  theorem parseDataPair_print : (e : Data × Data) → ∀ (f : Nat) (rest : List Token), dataOk e.1 = true →
      dataOk e.2 = true → (printPair e).length ≤ f → parseDataPair f (printPair e ++ rest) = some (e, rest)
    | (k, v) => by
      intro f rest hk hv hf
      simp [printPair, sepTokens] at hf
      obtain ⟨g, rfl, hg⟩ := fuel_succ hf
      have hk := fun r => parseData_print k g r hk (by omega)
      have hv := fun r => parseData_print v g r hv (by omega)
      simp [printPair, parseDataPair, skipWs_of_noLeadWs, parseComma_sep, printData_noLeadWs, hk, hv]
end

-- `parseElem` tries a boolean, a number, a data keyword and a BLS word in this order: what is printed for a later
-- alternative is refused by the earlier ones
theorem boolOfWord_boolWord : ∀ b : Bool, boolOfWord (boolWord b) = some b := by
  intro b; cases b <;> decide

theorem boolOfWord_none_of_head (c : Char) (cs : List Char) (h : isDigit c = true ∨ c = '-') :
    boolOfWord (c :: cs) = none := by
  have e1 : ('T' == c) = false := by simp; rintro rfl; revert h; decide
  have e2 : ('F' == c) = false := by simp; rintro rfl; revert h; decide
  simp [boolOfWord, boolParseArms, chars, List.find?, e1, e2]

theorem boolOfWord_intChars (n : Int) : boolOfWord (intChars n) = none := by
  obtain ⟨c, cs, hc, hd⟩ := intChars_head n
  rw [hc]
  exact boolOfWord_none_of_head c cs hd

theorem boolOfWord_kwData : ∀ k : DataKind, boolOfWord (kwData k) = none := by
  intro k; cases k <;> decide

theorem parseBigNumber_kwData : ∀ k : DataKind, parseBigNumber (kwData k) = none := by
  intro k; cases k <;> decide

theorem boolOfWord_blsWord (b : Bytes) : boolOfWord (blsWord b) = none :=
  boolOfWord_none_of_head '0' _ (.inl rfl)

theorem dataKindOfWord_blsWord (b : Bytes) : dataKindOfWord (blsWord b) = none := by
  simp [dataKindOfWord, dataParseArms, chars, blsWord]

theorem parseBigNumber_blsWord (b : Bytes) : parseBigNumber (blsWord b) = none := by
  simp [parseBigNumber, blsWord, isNumberWord, allDigits, isDigit]

def printElemsTail : List Const → List Token
  | [] => []
  | c :: cs => sepTokens ++ printElem c ++ printElemsTail cs

theorem printElems_cons (c : Const) (cs : List Const) :
    printElems (c :: cs) = printElem c ++ printElemsTail cs := by
  induction cs generalizing c with
  | nil => simp [printElems, printElemsTail]
  | cons e es ih => simp [printElems, printElemsTail, ih e]

theorem constOk_ty {t : Ty} {c : Const} (h : constOk t c = true) : t = c.ty := by
  cases c <;> cases t <;> simp_all [constOk, Const.ty]

theorem printElem_noLeadWs (t : Ty) (c : Const) (h : constOk t c = true) : NoLeadWs (printElem c) := by
  cases c with
  | data d =>
    simp only [printElem]; exact printData_noLeadWs d
  | ml b =>
    obtain rfl : t = .ml := constOk_ty h
    simp [constOk] at h
  | _ => simp only [printElem, List.cons_append, List.nil_append]; exact ⟨_, _, rfl, by simp⟩

theorem parseElem_rbrack (f : Nat) (t : Ty) (r : List Token) : parseElem f t (.rbrack :: r) = none := by
  cases f <;> rfl

theorem parseElemBracket_nil (f : Nat) (t : Ty) (rest : List Token) :
    parseElemBracket (f + 1) t (.lbrack :: .rbrack :: rest) = some ([], rest) := by
  simp [parseElemBracket, parseElem_rbrack]

theorem parseElemPair_of (a b : Ty) (x y : Const) (f : Nat) (rest : List Token)
    (hnx : NoLeadWs (printElem x)) (hny : NoLeadWs (printElem y))
    (hx : ∀ r, parseElem f a (printElem x ++ r) = some (x, r))
    (hy : ∀ r, parseElem f b (printElem y ++ r) = some (y, r)) :
    parseElemPair (f + 1) a b (.lpar :: (printElem x ++ sepTokens ++ printElem y ++ .rpar :: rest)) = some ((x, y), rest) := by
  simp only [List.append_assoc]
  simp [parseElemPair, skipWs_of_noLeadWs, parseComma_sep, hnx, hny, hx, hy]

mutual
  theorem parseElem_print : (c : Const) → ∀ (t : Ty) (f : Nat) (rest : List Token), constOk t c = true →
      (printElem c).length ≤ f → parseElem f t (printElem c ++ rest) = some (c, rest)
    | .integer _ | .bytestring _ | .string _ | .unit | .bool _ | .g1 _ | .g2 _ => by
      intro t f rest hok hf
      cases constOk_ty hok
      simp [Const.ty, constOk] at hok
      obtain ⟨g, rfl, hg⟩ := fuel_succ hf
      simp [printElem, parseElem, Const.ty, boolOfWord_intChars, parseBigNumber_intChars, hexDecode_hexChars, unescape_escape,
        boolOfWord_boolWord, boolOfWord_blsWord, parseBigNumber_blsWord, dataKindOfWord_blsWord, parseBlsWord_blsWord, *]
    | .data d => by
      intro t f rest hok hf
      obtain rfl : t = .data := constOk_ty hok
      simp [constOk] at hok
      simp only [printElem] at hf ⊢
      have hd := parseData_print d f rest hok hf
      obtain ⟨k, r, e⟩ := printData_head d
      simp only [e, List.cons_append, List.length_cons] at hd hf ⊢
      obtain ⟨g, rfl, hg⟩ := fuel_succ hf
      simp [parseElem, boolOfWord_kwData, parseBigNumber_kwData, dataKindOfWord_kw, hd]
    | .ml b => by
      intro t f rest hok
      obtain rfl : t = .ml := constOk_ty hok
      simp [constOk] at hok
    | .list t' xs => by
      intro t f rest hok hf
      obtain rfl : t = .list t' := constOk_ty hok
      simp [constOk] at hok
      simp [printElem] at hf
      obtain ⟨g, rfl, hg⟩ := fuel_succ hf
      have hb := parseElemBracket_print xs _ g rest hok (by omega)
      simp [printElem, parseElem, hb]
    | .pair a' b' x y => by
      intro t f rest hok hf
      obtain rfl : t = .pair a' b' := constOk_ty hok
      simp [constOk] at hok
      obtain ⟨hx, hy⟩ := hok
      simp [printElem, sepTokens] at hf
      obtain ⟨g, rfl, hg⟩ := fuel_succ hf
      obtain ⟨g', rfl, hg'⟩ := fuel_succ hg
      have hp := parseElemPair_of _ _ x y g' rest (printElem_noLeadWs _ x hx) (printElem_noLeadWs _ y hy)
        (fun r => parseElem_print x _ g' r hx (by omega))
        (fun r => parseElem_print y _ g' r hy (by omega))
      simp only [printElem, List.cons_append, List.nil_append, List.append_assoc] at hp ⊢
      simp [parseElem, hp]
  theorem parseElemBracket_print : (xs : List Const) → ∀ (t : Ty) (f : Nat) (rest : List Token),
      constsOk t xs = true → (printElems xs).length + 1 ≤ f →
      parseElemBracket f t (.lbrack :: (printElems xs ++ .rbrack :: rest)) = some (xs, rest)
    | [] => by
      intro t f rest _ hf
      obtain ⟨g, rfl, hg⟩ := fuel_succ hf
      simpa [printElems] using parseElemBracket_nil g t rest
    | c :: cs => by
      intro t f rest hok hf
      simp [constsOk] at hok
      obtain ⟨g, rfl, hg⟩ := fuel_succ hf
      rw [printElems_cons] at hf
      have := (printElem_noLeadWs t c hok.1).length_pos
      simp at hf
      have hc := fun r => parseElem_print c t g r hok.1 (by omega)
      have hm := parseElemMore_print cs t g rest hok.2 (by omega)
      simp [printElems_cons, parseElemBracket, skipWs_of_noLeadWs, printElem_noLeadWs t c hok.1, hc, hm]
  theorem parseElemMore_print : (xs : List Const) → ∀ (t : Ty) (f : Nat) (rest : List Token),
      constsOk t xs = true → (printElemsTail xs).length + 1 ≤ f →
      parseElemMore f t (printElemsTail xs ++ .rbrack :: rest) = some (xs, .rbrack :: rest)
    | [] => by
      intro t f rest _ hf
      obtain ⟨g, rfl, hg⟩ := fuel_succ hf
      simp [printElemsTail, parseElemMore]
    | c :: cs => by
      intro t f rest hok hf
      simp [constsOk] at hok
      obtain ⟨g, rfl, hg⟩ := fuel_succ hf
      simp [printElemsTail, sepTokens] at hf
      have hc := fun r => parseElem_print c t g r hok.1 (by omega)
      have hm := parseElemMore_print cs t g rest hok.2 (by omega)
      simp [printElemsTail, parseElemMore, parseComma_sep, printElem_noLeadWs t c hok.1, hc, hm]
end

theorem conKindOfWord_kw : ∀ k : ConKind, conKindOfWord (kwCon k) = some k := by
  intro k; cases k <;> decide

theorem printConstL_noLeadWs (w : Layout) (p : List Nat) (c : Const) (hok : constOk c.ty c = true) :
    NoLeadWs (printConstL w p c) := by
  cases c with
  | ml b => simp [Const.ty, constOk] at hok
  | _ => exact ⟨_, _, rfl, by simp⟩

/-- `const_text_roundtrip` (with the rest of the input and explicit fuel) under any layout -/
theorem parseConst_printL (w : Layout) (p : List Nat) (c : Const) (f : Nat) (rest : List Token)
    (hok : constOk c.ty c = true) (hf : (printConstL w p c).length ≤ f) :
    parseConst f (printConstL w p c ++ rest) = some (c, rest) := by
  cases c with
  | integer _ | bytestring _ | string _ | unit | bool _ =>
    simp [printConstL, printConst, parseConst, conKindOfWord_kw, parseBigNumber_intChars, hexDecode_hexChars,
      unescape_escape, boolOfWord_boolWord]
  | data d =>
    simp [Const.ty, constOk] at hok
    simp [printConstL, printConst] at hf
    have hd := fun r => parseData_print d f r hok (by omega)
    simp [printConstL, printConst, parseConst, conKindOfWord_kw, skipWs_of_noLeadWs, printData_noLeadWs, hd]
  | g1 b | g2 b =>
    simp [Const.ty, constOk] at hok
    simp [printConstL, printConst, parseConst, conKindOfWord_kw, parseBlsWord_blsWord, hok]
  | ml b => simp [Const.ty, constOk] at hok
  | list t xs =>
    simp [Const.ty, constOk] at hok
    simp [printConstL] at hf
    have ht := fun r => parseTy_printTyL w t (0 :: p) f r (by omega)
    have hxs := parseElemBracket_print xs t f rest hok (by omega)
    simp [printConstL, parseConst, conKindOfWord_kw, parseTy_ws, ht, hxs]
  | pair a b x y =>
    simp [Const.ty, constOk] at hok
    simp [printConstL, sepTokens] at hf
    obtain ⟨g, rfl, hg⟩ := fuel_succ hf
    have ha := fun r => parseTy_printTyL w a (0 :: p) (g + 1) r (by omega)
    have hb := fun r => parseTy_printTyL w b (1 :: p) (g + 1) r (by omega)
    have hxy := parseElemPair_of a b x y g rest (printElem_noLeadWs a x hok.1) (printElem_noLeadWs b y hok.2)
      (fun r => parseElem_print x a g r hok.1 (by omega))
      (fun r => parseElem_print y b g r hok.2 (by omega))
    simp only [List.append_assoc] at hxy
    simp [printConstL, parseConst, conKindOfWord_kw, skipWs_of_noLeadWs, printTyL_noLeadWs, ha, hb, hxy]

theorem printConstL_flat (c : Const) (p : List Nat) : printConstL (fun _ => false) p c = printConst c := by
  cases c <;> simp [printConstL, printConst, printTyL_flat]

theorem parseConst_print (c : Const) (f : Nat) (rest : List Token) (hok : constOk c.ty c = true)
    (hf : (printConst c).length ≤ f) : parseConst f (printConst c ++ rest) = some (c, rest) := by
  rw [← printConstL_flat c []] at hf ⊢
  exact parseConst_printL _ [] c f rest hok hf

end AikenVerif.Text
