import AikenVerif.Lemmas.CekAcct
/-! Lock-step refinement: on well-formed states a transition of the impl model is the transition of the
specification's machine (budget aside), and well-formedness is preserved.  The builtin call needs one
fact about costing: it fails only through its preliminary steps (`builtinCost_cases`). -/
namespace AikenVerif
open Gen

theorem Res.bind_eq_ok {α β} {x : Res α} {f : α → Res β} {r : β} (h : x.bind f = .ok r) :
    ∃ a, x = .ok a ∧ f a = .ok r := by
  cases x with
  | ok a => exact ⟨a, rfl, h⟩
  | _ => cases h

theorem Res.bind_ne_err {α β} {x : Res α} {f : α → Res β} (hx : x ≠ .err) (hf : ∀ a, f a ≠ .err) :
    x.bind f ≠ .err := by
  cases x with
  | ok a => exact hf a
  | err => exact absurd rfl hx
  | panic => intro h; cases h
  | unmodelled => intro h; cases h

@[simp] theorem Outcome.bind_ok' {α β} (a : α) (f : α → Outcome β) : (Outcome.ok a >>= f) = f a := rfl
@[simp] theorem Outcome.bind_fail' {α β} (f : α → Outcome β) : (Outcome.fail >>= f) = .fail := rfl
@[simp] theorem Outcome.bind_oob' {α β} (f : α → Outcome β) : (Outcome.oob >>= f) = .oob := rfl
@[simp] theorem Outcome.bind_panic' {α β} (f : α → Outcome β) : (Outcome.panic >>= f) = .panic := rfl
@[simp] theorem Outcome.bind_unm' {α β} (f : α → Outcome β) : (Outcome.unmodelled >>= f) = .unmodelled := rfl
@[simp] theorem Outcome.pure_eq {α} (a : α) : (pure a : Outcome α) = .ok a := rfl

theorem Outcome.bind_eq_ok {α β} {x : Outcome α} {f : α → Outcome β} {r : β} (h : (x >>= f) = .ok r) :
    ∃ a, x = .ok a ∧ f a = .ok r := by
  cases x with
  | ok a => exact ⟨a, rfl, h⟩
  | _ => cases h

mutual
  /-- builtin values inside a value respect the "all forces before any argument" discipline and are
  unsaturated (a saturated builtin is run at once) -/
  def Value.wf : Value → Bool
    | .con _ => true
    | .delay _ env => Value.wfList env
    | .lam _ _ env => Value.wfList env
    | .builtin b forces args =>
      decide (forces ≤ b.forceCount) && (args.isEmpty || forces == b.forceCount) &&
        decide (args.length < b.arity) && Value.wfList args
    | .constr _ fs => Value.wfList fs
  def Value.wfList : List Value → Bool
    | [] => true
    | v :: vs => v.wf && Value.wfList vs
end

def Frame.wf : Frame → Bool
  | .awaitArg fn => fn.wf
  | .awaitFunTerm env _ => Value.wfList env
  | .awaitFunValue v => v.wf
  | .force => true
  | .constr env _ _ done => Value.wfList env && Value.wfList done
  | .cases env _ => Value.wfList env

def State.wf : State → Bool
  | .compute ctx env _ => ctx.all Frame.wf && Value.wfList env
  | .ret ctx v => ctx.all Frame.wf && v.wf

theorem wfList_iff (vs : List Value) : Value.wfList vs = true ↔ ∀ v ∈ vs, v.wf = true := by
  induction vs with
  | nil => simp [Value.wfList]
  | cons v vs ih => simp [Value.wfList, ih]

theorem wfList_append (xs ys : List Value) :
    Value.wfList (xs ++ ys) = (Value.wfList xs && Value.wfList ys) := by
  induction xs with
  | nil => simp [Value.wfList]
  | cons x xs ih => simp [Value.wfList, ih, Bool.and_assoc]

theorem pushArgs_all (p : Frame → Bool) (fields : List Value) (ctx : Ctx)
    (hf : ∀ v ∈ fields, p (.awaitFunValue v) = true) (hc : ctx.all p = true) :
    (Spec.pushArgs fields ctx).all p = true := by
  rw [Spec.pushArgs, List.all_append, hc, Bool.and_true, List.all_map, List.all_eq_true]
  exact hf

theorem callBuiltin_result (sem : Sem) (b : Builtin) (args : List Value) (v : Value)
    (h : callBuiltin sem b args = .ok v) : (∃ c, v = .con c) ∨ v ∈ args := by
  obtain ⟨o, _, ho⟩ := Res.bind_eq_ok h
  cases o with
  | con c => cases ho; exact Or.inl ⟨c, rfl⟩
  | arg i =>
    simp only [getArgB] at ho
    split at ho
    · rename_i hi; cases ho; exact Or.inr (List.mem_of_getElem? hi)
    · cases ho

theorem callBuiltin_wf (sem : Sem) (b : Builtin) (args : List Value) (v : Value)
    (ha : Value.wfList args = true) (h : callBuiltin sem b args = .ok v) : v.wf = true := by
  rcases callBuiltin_result sem b args v h with ⟨c, rfl⟩ | hv
  · rfl
  · exact (wfList_iff args).1 ha v hv

theorem denotation_wf (sem : Sem) (b : Builtin) (args : List Value) (v : Value)
    (ha : Value.wfList args = true) (h : denotation sem b args = .ok v) : v.wf = true := by
  obtain ⟨_, _, hc⟩ := Res.bind_eq_ok h
  exact callBuiltin_wf sem b args v ha hc

/-- One transition of the impl model agrees with the specification's machine on `s` (budget outcomes
aside) and keeps the invariants. -/
def StepGood (cfg : Config) (s : State) : StepResult → Prop
  | .next a' s' => Spec.step cfg.sem (denotation cfg.sem) s = .next s' ∧ s'.wf = true ∧ AcctWF a'
  | .done _ t => Spec.step cfg.sem (denotation cfg.sem) s = .done t
  | .fail => Spec.step cfg.sem (denotation cfg.sem) s = .fail
  | _ => True

theorem charge_then (cfg : Config) (a : Acct) (k : Option StepKind) (ha : AcctWF a)
    (f : Acct → Outcome (Acct × State)) (P : StepResult → Prop)
    (hoob : P .oob) (hun : P .unmodelled)
    (hf : ∀ a', AcctWF a' → P (.ofOutcome (f a'))) :
    P (.ofOutcome (chargeStep cfg a k >>= f)) := by
  have hb := chargeStep_benign cfg a k ha
  revert hb
  cases chargeStep cfg a k with
  | ok a' => intro hb; exact hf a' hb
  | oob => intro _; exact hoob
  | unmodelled => intro _; exact hun
  | fail => intro hb; exact hb.elim
  | panic => intro hb; exact hb.elim

/-- the final flush of `unbudgeted_steps` when the context is empty -/
def flush (cfg : Config) (a : Acct) : Outcome Acct :=
  if a.counts.getD (a.counts.length - 1) 0 > 0 then spendUnbudgeted cfg.costs a else .ok a

theorem step_ret_nil (cfg : Config) (a : Acct) (v : Value) :
    step cfg a (.ret [] v) =
      match flush cfg a with
      | .ok a' => .done a' (valueAsTerm v)
      | .fail => .fail
      | .oob => .oob
      | .panic => .panic
      | .unmodelled => .unmodelled := rfl

theorem flush_cases (cfg : Config) (a : Acct) :
    flush cfg a = spendUnbudgeted cfg.costs a ∨
    a.counts.getD (a.counts.length - 1) 0 = 0 ∧ flush cfg a = .ok a := by
  by_cases hz : a.counts.getD (a.counts.length - 1) 0 > 0
  · exact Or.inl (if_pos hz)
  · exact Or.inr ⟨Nat.eq_zero_of_not_pos hz, if_neg hz⟩

theorem flush_benign (cfg : Config) (a : Acct) (ha : AcctWF a) : Benign AcctWF (flush cfg a) := by
  rcases flush_cases cfg a with hf | ⟨_, hf⟩ <;> rw [hf]
  · exact spendUnbudgeted_benign cfg.costs a ha
  · exact ha

/-- the step kind `Machine::compute` charges for a term (generated table `termSteps`) -/
def termKind : NTerm → Option StepKind
  | .var _ => termSteps.var_
  | .delay _ => termSteps.delay_
  | .lam _ _ => termSteps.lambda_
  | .app _ _ => termSteps.apply_
  | .const _ => termSteps.constant_
  | .force _ => termSteps.force_
  | .error => termSteps.error_
  | .builtin _ => termSteps.builtin_
  | .constr _ _ => termSteps.constr_
  | .case _ _ => termSteps.case_

theorem termKind_ne_startUp (t : NTerm) (k : StepKind) (h : termKind t = some k) : k ≠ .startUp := by
  cases t <;> cases h <;> decide

/-- `o` is the successor both machines go to, `none` when both fail -/
theorem compute_lockstep (sem : Sem) (den : Builtin → List Value → Res Value) (ctx : Ctx) (env : List Value)
    (t : NTerm) :
    ∃ o : Option State,
      Spec.step sem den (.compute ctx env t) = (match o with | some s' => .next s' | none => .fail) ∧
      ∀ cfg a, computeStep cfg a ctx env t =
        chargeStep cfg a (termKind t) >>= fun a' => match o with | some s' => .ok (a', s') | none => .fail := by
  cases t with
  | var n =>
    refine ⟨(Spec.lookup env n.index).map (.ret ctx), ?_, fun cfg a => ?_⟩
    · simp only [Spec.step]; cases Spec.lookup env n.index <;> rfl
    · simp only [computeStep, lookupVar_eq]; cases Spec.lookup env n.index <;> rfl
  | constr tag fields => cases fields <;> exact ⟨some _, rfl, fun _ _ => rfl⟩
  | error => exact ⟨none, rfl, fun _ _ => rfl⟩
  | _ => exact ⟨some _, rfl, fun _ _ => rfl⟩

theorem saturate_ne_done (den : Builtin → List Value → Res Value) (ctx : Ctx) (b : Builtin) (forces : Nat)
    (args : List Value) (t : NTerm) : Spec.saturate den ctx b forces args ≠ .done t := by
  unfold Spec.saturate
  split
  · cases den b args <;> (intro h; cases h)
  · intro h; cases h

theorem applyValue_ne_done (den : Builtin → List Value → Res Value) (ctx : Ctx) (fn arg : Value) (t : NTerm) :
    Spec.applyValue den ctx fn arg ≠ .done t := by
  cases fn with
  | builtin b forces args =>
    simp only [Spec.applyValue]
    split
    · exact saturate_ne_done den ctx b forces _ t
    · intro h; cases h
  | _ => intro h; cases h

theorem spec_step_done (sem : Sem) (den : Builtin → List Value → Res Value) (s : State) (t : NTerm)
    (h : Spec.step sem den s = .done t) : ∃ v, s = .ret [] v := by
  cases s with
  | compute ctx env tm =>
    obtain ⟨o, hspec, _⟩ := compute_lockstep sem den ctx env tm
    rw [hspec] at h
    cases o <;> cases h
  | ret ctx v =>
    cases ctx with
    | nil => exact ⟨v, rfl⟩
    | cons fr ctx =>
      exfalso
      cases fr with
      | awaitFunTerm _ _ => cases h
      | awaitArg fn => exact applyValue_ne_done den ctx fn v t h
      | awaitFunValue arg => exact applyValue_ne_done den ctx v arg t h
      | force =>
        cases v with
        | builtin b forces args =>
          simp only [Spec.step] at h
          split at h
          · exact saturate_ne_done den ctx b _ args t h
          · cases h
        | _ => cases h
      | constr env tag todo done => cases todo <;> cases h
      | cases env branches =>
        cases v with
        | constr tag fields =>
          simp only [Spec.step] at h
          split at h <;> cases h
        | con c =>
          simp only [Spec.step] at h
          split at h
          · split at h <;> cases h
          · cases h
        | _ => cases h

theorem Spec.lookup_mem {env : List Value} {i : Nat} {v : Value} (h : Spec.lookup env i = some v) : v ∈ env := by
  unfold Spec.lookup at h
  split at h
  · cases h
  · exact List.mem_reverse.mp (List.mem_of_getElem? h)

theorem compute_wf (sem : Sem) (den : Builtin → List Value → Res Value) (ctx : Ctx) (env : List Value)
    (t : NTerm) (s' : State) (hs : (State.compute ctx env t).wf = true)
    (h : Spec.step sem den (.compute ctx env t) = .next s') : s'.wf = true := by
  simp only [State.wf, Bool.and_eq_true] at hs
  obtain ⟨hctx, henv⟩ := hs
  cases t with
  | var n =>
    simp only [Spec.step] at h
    split at h
    · rename_i v hv
      cases h
      simp only [Bool.and_self, State.wf, hctx, (wfList_iff env).1 henv v (Spec.lookup_mem hv)]
    · cases h
  | constr tag fields => cases fields <;> cases h <;> simp [State.wf, Frame.wf, Value.wf, Value.wfList, hctx, henv]
  | error => cases h
  | builtin b => cases h; simp [State.wf, Value.wf, Value.wfList, hctx, arity_pos b]
  | _ => cases h; simp [State.wf, Frame.wf, Value.wf, hctx, henv]

theorem remaining_nil_iff (b : Builtin) (forces : Nat) (args : List Value) :
    Spec.remaining b forces args = [] ↔ b.forceCount + b.arity ≤ forces + args.length := by
  rw [← List.length_eq_zero_iff, Spec.remaining, sig_eq, Spec.mkSig, List.length_drop, List.length_append,
    List.length_replicate, List.length_replicate]
  omega

theorem remaining_forces (b : Builtin) (forces : Nat) (h : forces < b.forceCount) :
    ∃ rest, Spec.remaining b forces [] = .all :: rest := by
  obtain ⟨m, hm⟩ : ∃ m, b.forceCount - forces = m + 1 := ⟨b.forceCount - forces - 1, by omega⟩
  rw [Spec.remaining, sig_eq, Spec.mkSig, List.length_nil, Nat.add_zero,
    List.drop_append_of_le_length (by rw [List.length_replicate]; omega), List.drop_replicate, hm,
    List.replicate_succ]
  exact ⟨_, rfl⟩

theorem remaining_args (b : Builtin) (args : List Value) :
    Spec.remaining b b.forceCount args = List.replicate (b.arity - args.length) .arg := by
  rw [Spec.remaining, sig_eq, Spec.mkSig, List.drop_append]
  simp [List.drop_replicate]

theorem remaining_args_cons (b : Builtin) (args : List Value) (h : args.length < b.arity) :
    ∃ rest, Spec.remaining b b.forceCount args = .arg :: rest := by
  obtain ⟨m, hm⟩ : ∃ m, b.arity - args.length = m + 1 := ⟨b.arity - args.length - 1, by omega⟩
  rw [remaining_args, hm, List.replicate_succ]
  exact ⟨_, rfl⟩

theorem getArg_ne_err (args : List Value) (i : Nat) : getArg args i ≠ .err := by
  unfold getArg
  split <;> (intro h; cases h)

theorem measure_ne_err (sem : Sem) (b : Builtin) (args : List Value) (m : Measure) :
    measure sem b args m ≠ .err := by
  -- every arm reads one argument and goes on with `pure` or `.panic`
  cases m with
  | exMem i | exMemSem i => exact Res.bind_ne_err (getArg_ne_err args i) fun v h => by cases h
  | asSize i | listLen i | literalAbs i | listLenOrExMem i =>
    refine Res.bind_ne_err (getArg_ne_err args i) fun v => ?_
    split <;> (intro h; cases h)

theorem measures_ne_err (sem : Sem) (b : Builtin) (args : List Value) (ms : List Measure) :
    measures sem b args ms ≠ .err := by
  induction ms with
  | nil => intro h; cases h
  | cons m ms ih =>
    refine Res.bind_ne_err (measure_ne_err sem b args m) fun x => Res.bind_ne_err ih fun xs => ?_
    intro h; cases h

theorem builtinCost_cases (cm : CostModel) (sem : Sem) (b : Builtin) (args : List Value) :
    (builtinCost cm sem b args = .err → runPre b args (costSpec b).pre = .err) ∧
    (∀ c, builtinCost cm sem b args = .ok c → runPre b args (costSpec b).pre = .ok ()) := by
  unfold builtinCost
  simp only [bind, pure]
  cases hp : runPre b args (costSpec b).pre with
  | err => simp [Res.bind]
  | panic => simp [Res.bind]
  | unmodelled => simp [Res.bind]
  | ok u =>
    refine ⟨?_, fun _ _ => rfl⟩
    intro h
    exfalso
    revert h
    show Res.bind _ _ ≠ Res.err
    apply Res.bind_ne_err (by intro h; cases h)
    intro _
    apply Res.bind_ne_err (measures_ne_err sem b args _)
    intro ms
    apply Res.bind_ne_err (measures_ne_err sem b args _)
    intro cs
    apply Res.bind_ne_err
    · split <;> (intro h; cases h)
    intro memF
    apply Res.bind_ne_err
    · split <;> (intro h; cases h)
    intro cpuF
    split <;> (intro h; cases h)

theorem evalBuiltinApp_cases (cfg : Config) (a : Acct) (b : Builtin) (args : List Value) :
    match evalBuiltinApp cfg a b args with
    | .ok (a', v) => ∃ c, builtinCost cfg.costs cfg.sem b args = .ok c ∧ a' = ⟨a.budget.sub c, a.counts⟩ ∧
        NonNeg (a.budget.sub c) ∧ callBuiltin cfg.sem b args = .ok v
    | .oob => ∃ c, builtinCost cfg.costs cfg.sem b args = .ok c ∧ ¬ NonNeg (a.budget.sub c)
    | .fail => builtinCost cfg.costs cfg.sem b args = .err ∨
        ∃ c, builtinCost cfg.costs cfg.sem b args = .ok c ∧ callBuiltin cfg.sem b args = .err
    | .panic => builtinCost cfg.costs cfg.sem b args = .panic ∨
        ∃ c, builtinCost cfg.costs cfg.sem b args = .ok c ∧ callBuiltin cfg.sem b args = .panic
    | .unmodelled => True := by
  unfold evalBuiltinApp
  cases builtinCost cfg.costs cfg.sem b args with
  | ok c =>
    rcases spendBudget_cases a c with ⟨hs, hn⟩ | ⟨hs, hn⟩
    · simp only [Outcome.ofRes, Outcome.bind_ok', hs]
      cases callBuiltin cfg.sem b args with
      | ok v => exact ⟨c, rfl, rfl, hn, rfl⟩
      | err => exact Or.inr ⟨c, rfl, rfl⟩
      | panic => exact Or.inr ⟨c, rfl, rfl⟩
      | unmodelled => trivial
    · simp only [Outcome.ofRes, Outcome.bind_ok', hs]
      exact ⟨c, rfl, hn⟩
  | err => exact Or.inl rfl
  | panic => exact Or.inl rfl
  | unmodelled => trivial

theorem evalBuiltinApp_good (cfg : Config) (a : Acct) (b : Builtin) (args : List Value)
    (ha : AcctWF a) (hw : Value.wfList args = true) :
    match evalBuiltinApp cfg a b args with
    | .ok (a', v) => denotation cfg.sem b args = .ok v ∧ AcctWF a' ∧ v.wf = true
    | .fail => denotation cfg.sem b args = .err
    | _ => True := by
  have hc := builtinCost_cases cfg.costs cfg.sem b args
  have h := evalBuiltinApp_cases cfg a b args
  revert h
  cases evalBuiltinApp cfg a b args with
  | ok p =>
    rintro ⟨c, hcost, hp, _, hcall⟩
    exact ⟨by rw [denotation, hc.2 c hcost]; exact hcall, by rw [hp]; exact ha, callBuiltin_wf cfg.sem b args _ hw hcall⟩
  | fail =>
    rintro (hcost | ⟨c, hcost, hcall⟩)
    · show denotation cfg.sem b args = .err
      rw [denotation, hc.1 hcost]; rfl
    · show denotation cfg.sem b args = .err
      rw [denotation, hc.2 c hcost]; exact hcall
  | _ => intro _; trivial

theorem builtin_wf_iff (b : Builtin) (forces : Nat) (args : List Value) :
    (Value.builtin b forces args).wf = true ↔
      forces ≤ b.forceCount ∧ (args = [] ∨ forces = b.forceCount) ∧ args.length < b.arity ∧
        Value.wfList args = true := by
  simp [Value.wf, Bool.and_eq_true, List.isEmpty_iff, and_assoc]

/-- The common tail of `applyEvaluate` and `forceEvaluate` on a builtin that has taken one more argument or
force.  The model writes it out in both, so the `builtinApp_*` lemmas apply to their bodies by unfolding. -/
def builtinApp (cfg : Config) (a : Acct) (ctx : Ctx) (b : Builtin) (forces : Nat) (args : List Value) :
    Outcome (Acct × State) :=
  if args.length = b.arity then
    evalBuiltinApp cfg a b args >>= fun (p : Acct × Value) => pure (p.1, State.ret ctx p.2)
  else .ok (a, .ret ctx (.builtin b forces args))

theorem builtinApp_good (cfg : Config) (a : Acct) (ctx : Ctx) (b : Builtin) (forces : Nat)
    (args : List Value) (s : State) (ha : AcctWF a) (hctx : ctx.all Frame.wf = true)
    (hw : Value.wfList args = true)
    (hf : forces ≤ b.forceCount) (hfa : args = [] ∨ forces = b.forceCount) (hlen : args.length ≤ b.arity)
    (hspec : Spec.step cfg.sem (denotation cfg.sem) s = Spec.saturate (denotation cfg.sem) ctx b forces args) :
    StepGood cfg s (.ofOutcome (builtinApp cfg a ctx b forces args)) := by
  unfold builtinApp
  have hrem : Spec.remaining b forces args = [] ↔ args.length = b.arity := by
    have := arity_pos b
    rw [remaining_nil_iff]
    rcases hfa with rfl | rfl
    · simp only [List.length_nil]; omega
    · omega
  by_cases hsat : args.length = b.arity
  · rw [if_pos hsat]
    rw [Spec.saturate, if_pos (hrem.2 hsat)] at hspec
    have hg := evalBuiltinApp_good cfg a b args ha hw
    revert hg
    cases evalBuiltinApp cfg a b args with
    | ok p => intro hg; exact ⟨by rw [hspec, hg.1], by simp only [Bool.and_self, State.wf, hctx, hg.2.2], hg.2.1⟩
    | fail => intro hg; show Spec.step _ _ s = .fail; rw [hspec, hg]
    | _ => intro _; trivial
  · rw [if_neg hsat]
    rw [Spec.saturate, if_neg (fun h => hsat (hrem.1 h))] at hspec
    exact ⟨hspec, by simp only [Bool.and_self, State.wf, hctx, (builtin_wf_iff b forces args).2 ⟨hf, hfa, by omega, hw⟩], ha⟩

theorem applyEvaluate_good (cfg : Config) (a : Acct) (ctx : Ctx) (fn arg : Value) (s : State)
    (ha : AcctWF a) (hctx : ctx.all Frame.wf = true) (hfn : fn.wf = true) (harg : arg.wf = true)
    (hspec : Spec.step cfg.sem (denotation cfg.sem) s = Spec.applyValue (denotation cfg.sem) ctx fn arg) :
    StepGood cfg s (.ofOutcome (applyEvaluate cfg a ctx fn arg)) := by
  cases fn with
  | lam n body env =>
    simp only [Value.wf] at hfn
    exact ⟨hspec, by simp only [Bool.and_self, State.wf, hctx, wfList_append, hfn, Value.wfList, harg], ha⟩
  | builtin b forces args =>
    obtain ⟨hf, hfa, hlen, hw⟩ := (builtin_wf_iff b forces args).1 hfn
    simp only [applyEvaluate]
    by_cases hfc : forces < b.forceCount
    · -- still waiting for a force: both machines reject the application
      obtain rfl : args = [] := hfa.resolve_right (by omega)
      obtain ⟨rest, hr⟩ := remaining_forces b forces hfc
      simp only [hfc, decide_true, Bool.not_true, Bool.and_false, Bool.false_eq_true, if_false]
      show Spec.step _ _ s = .fail
      rw [hspec, Spec.applyValue, hr]
    · obtain rfl : forces = b.forceCount := by omega
      obtain ⟨rest, hr⟩ := remaining_args_cons b args hlen
      rw [if_pos (by simp [hfc]; omega)]
      apply builtinApp_good cfg a ctx b _ (args ++ [arg]) s ha hctx
        (by simp only [wfList_append, hw, Value.wfList, harg, Bool.and_self]) hf (Or.inr rfl) (by simp; omega)
      rw [hspec, Spec.applyValue, hr]
  | _ => exact hspec

theorem forceEvaluate_good (cfg : Config) (a : Acct) (ctx : Ctx) (v : Value)
    (ha : AcctWF a) (hctx : ctx.all Frame.wf = true) (hv : v.wf = true) :
    StepGood cfg (.ret (.force :: ctx) v) (.ofOutcome (forceEvaluate cfg a ctx v)) := by
  cases v with
  | delay body env =>
    simp only [Value.wf] at hv
    exact ⟨rfl, by simp only [Bool.and_self, State.wf, hctx, hv], ha⟩
  | builtin b forces args =>
    obtain ⟨hf, hfa, hlen, hw⟩ := (builtin_wf_iff b forces args).1 hv
    simp only [forceEvaluate]
    by_cases hfc : forces < b.forceCount
    · obtain rfl : args = [] := hfa.resolve_right (by omega)
      obtain ⟨rest, hr⟩ := remaining_forces b forces hfc
      rw [if_pos hfc]
      apply builtinApp_good cfg a ctx b (forces + 1) [] _ ha hctx rfl (by omega) (Or.inl rfl) (Nat.zero_le _)
      simp only [Spec.step, hr]
    · obtain rfl : forces = b.forceCount := by omega
      obtain ⟨rest, hr⟩ := remaining_args_cons b args hlen
      rw [if_neg hfc]
      show Spec.step _ _ _ = .fail
      simp only [Spec.step, hr]
  | _ => exact rfl

theorem tooManyBranches_ite {α} (m n : Nat) (x : Option α) :
    (if tooManyBranches (some m) n = true then none else x) = if n ≤ m then x else none := by
  by_cases h : n ≤ m
  · rw [if_pos h, if_neg (by simp only [tooManyBranches, decide_eq_true_eq]; omega)]
  · rw [if_neg h, if_pos (by simp only [tooManyBranches, decide_eq_true_eq]; omega)]

theorem caseConst_eq (c : Const) (branches : List NTerm) :
    (match caseOnConst c with
      | none => none
      | some (tag, fields, maxB) =>
        if tooManyBranches maxB branches.length = true then none
        else (branches[tag]?).map (·, fields)) = Spec.caseConst c branches := by
  cases c with
  | unit => exact tooManyBranches_ite ..
  | bool b => cases b <;> exact tooManyBranches_ite ..
  | integer i =>
    simp only [caseOnConst, Spec.caseConst]
    by_cases h : i < 0
    · rw [if_pos h, if_neg (by omega)]
    · rw [if_neg h, if_pos (by omega)]; rfl
  | list t xs => cases xs <;> exact tooManyBranches_ite ..
  | pair ta tb x y => exact tooManyBranches_ite ..
  | _ => rfl

theorem caseOnConst_fields (c : Const) (tag : Nat) (fields : List Value) (m : Option Nat)
    (h : caseOnConst c = some (tag, fields, m)) : ∀ v ∈ fields, ∃ c', v = .con c' := by
  cases c with
  | list t xs =>
    cases xs with
    | nil => cases h; nofun
    | cons x xs => cases h; simp
  | pair ta tb x y => cases h; simp
  | integer i =>
    simp only [caseOnConst] at h
    split at h <;> cases h
    nofun
  | bool b => cases b <;> cases h <;> nofun
  | unit => cases h; nofun
  | _ => cases h

theorem caseOnConst_fields_wf (c : Const) (tag : Nat) (fields : List Value) (m : Option Nat)
    (h : caseOnConst c = some (tag, fields, m)) : Value.wfList fields = true :=
  (wfList_iff fields).2 fun v hv => by obtain ⟨c', rfl⟩ := caseOnConst_fields c tag fields m h v hv; rfl

/-- `o` as in `compute_lockstep`: the chosen branch and the fields pushed as its arguments.  The last
conjunct says where the fields come from: the constructor value itself or `caseOnConst`. -/
theorem cases_lockstep (cfg : Config) (den : Builtin → List Value → Res Value) (a : Acct) (ctx : Ctx)
    (env : List Value) (branches : List NTerm) (v : Value) :
    ∃ o : Option (NTerm × List Value),
      Spec.step cfg.sem den (.ret (.cases env branches :: ctx) v) =
        (match o with | some p => .next (.compute (Spec.pushArgs p.2 ctx) env p.1) | none => .fail) ∧
      returnStep cfg a (.cases env branches) ctx v =
        (match o with | some p => .ok (a, .compute (Spec.pushArgs p.2 ctx) env p.1) | none => .fail) ∧
      ∀ p, o = some p → p.1 ∈ branches ∧
        ((∃ tag, v = .constr tag p.2) ∨ ∃ c tag m, v = .con c ∧ caseOnConst c = some (tag, p.2, m)) := by
  cases v with
  | constr tag fields =>
    refine ⟨branches[tag]?.map (·, fields), ?_, ?_, fun p hp => ?_⟩
    · simp only [Spec.step]; cases branches[tag]? <;> rfl
    · simp only [returnStep, transferArgStack_eq]; cases branches[tag]? <;> rfl
    · obtain ⟨t, ht, rfl⟩ := Option.map_eq_some_iff.mp hp
      exact ⟨List.mem_of_getElem? ht, Or.inl ⟨tag, rfl⟩⟩
  | con c =>
    by_cases hE : cfg.sem = .E
    · refine ⟨Spec.caseConst c branches, ?_, ?_, fun p hp => ?_⟩
      · simp only [Spec.step, if_pos hE]
        cases Spec.caseConst c branches <;> rfl
      · simp only [returnStep, transferArgStack_eq, if_neg (not_not_intro hE), ← caseConst_eq]
        cases caseOnConst c with
        | none => rfl
        | some q =>
          dsimp only
          split
          · rfl
          · cases branches[q.1]? <;> rfl
      · rw [← caseConst_eq] at hp
        cases hco : caseOnConst c with
        | none => rw [hco] at hp; cases hp
        | some q =>
          rw [hco] at hp
          dsimp only at hp
          split at hp
          · cases hp
          · obtain ⟨t, ht, rfl⟩ := Option.map_eq_some_iff.mp hp
            exact ⟨List.mem_of_getElem? ht, Or.inr ⟨c, q.1, q.2.2, rfl, hco⟩⟩
    · exact ⟨none, by simp only [Spec.step, if_neg hE], by simp only [returnStep, hE, ne_eq, not_false_eq_true, if_true], nofun⟩
  | _ => exact ⟨none, rfl, rfl, nofun⟩

theorem step_good (cfg : Config) (a : Acct) (s : State) (hs : s.wf = true) (ha : AcctWF a) :
    StepGood cfg s (step cfg a s) := by
  cases s with
  | compute ctx env t =>
    obtain ⟨o, hspec, himpl⟩ := compute_lockstep cfg.sem (denotation cfg.sem) ctx env t
    rw [step, himpl]
    apply charge_then cfg a _ ha _ (StepGood cfg _) trivial trivial
    intro a' ha'
    cases o with
    | none => exact hspec
    | some s' => exact ⟨hspec, compute_wf _ _ ctx env t s' hs hspec, ha'⟩
  | ret ctx v =>
    simp only [State.wf, Bool.and_eq_true] at hs
    obtain ⟨hctx, hv⟩ := hs
    cases ctx with
    | nil =>
      rw [step_ret_nil]
      have hfl := flush_benign cfg a ha
      revert hfl
      cases flush cfg a with
      | ok a' => intro _; exact congrArg Spec.SResult.done (valueAsTerm_eq v).symm
      | oob => intro _; trivial
      | unmodelled => intro _; trivial
      | fail => exact False.elim
      | panic => exact False.elim
    | cons fr ctx =>
      simp only [List.all_cons, Bool.and_eq_true] at hctx
      obtain ⟨hfr, hctx⟩ := hctx
      rw [step]
      cases fr with
      | force => exact forceEvaluate_good cfg a ctx v ha hctx hv
      | awaitFunTerm argEnv arg =>
        have henv : Value.wfList argEnv = true := hfr
        exact ⟨rfl, by simp [State.wf, hctx, Frame.wf, hv, henv], ha⟩
      | awaitArg fn => exact applyEvaluate_good cfg a ctx fn v _ ha hctx hfr hv rfl
      | awaitFunValue arg => exact applyEvaluate_good cfg a ctx v arg _ ha hctx hv hfr rfl
      | constr env tag todo done =>
        simp only [Frame.wf, Bool.and_eq_true] at hfr
        cases todo with
        | nil => exact ⟨rfl, by simp only [Bool.and_self, State.wf, hctx, Value.wf, wfList_append, hfr.2, Value.wfList, hv], ha⟩
        | cons m ms =>
          exact ⟨rfl, by simp [State.wf, hctx, Frame.wf, hfr.1, wfList_append, hfr.2, Value.wfList, hv], ha⟩
      | cases env branches =>
        obtain ⟨o, hspec, himpl, hsel⟩ := cases_lockstep cfg (denotation cfg.sem) a ctx env branches v
        rw [himpl]
        cases o with
        | none => exact hspec
        | some p =>
          have henv : Value.wfList env = true := hfr
          have hf : Value.wfList p.2 = true := by
            rcases (hsel p rfl).2 with ⟨tag, rfl⟩ | ⟨c, tag, m, rfl, hco⟩
            · exact hv
            · exact caseOnConst_fields_wf c tag p.2 m hco
          refine ⟨hspec, ?_, ha⟩
          simp only [State.wf, pushArgs_all Frame.wf p.2 ctx ((wfList_iff p.2).1 hf) hctx, henv, Bool.and_self]

theorem run_cases (cfg : Config) (fuel : Nat) (budget : ExBudget) (t : NTerm) :
    run cfg fuel budget t = .unmodelled ∨
    (run cfg fuel budget t = .oob ∧ ∃ c, cfg.costs.machineCost .startUp = some c ∧ ¬ NonNeg (budget.sub c)) ∨
    ∃ c, cfg.costs.machineCost .startUp = some c ∧ NonNeg (budget.sub c) ∧
      run cfg fuel budget t = runFrom cfg fuel ⟨budget.sub c, initCounts⟩ (.compute [] [] t) := by
  unfold run
  cases cfg.costs.machineCost .startUp with
  | none => exact Or.inl rfl
  | some c =>
    rcases spendBudget_cases ⟨budget, initCounts⟩ c with ⟨hs, hn⟩ | ⟨hs, hn⟩
    · exact Or.inr (Or.inr ⟨c, rfl, hn, by simp only [hs]⟩)
    · exact Or.inr (Or.inl ⟨by simp only [hs], c, rfl, hn⟩)

end AikenVerif
