import AikenVerif.Lemmas.CekRefine
/-!
The ledger: what the cost model charges for each transition (`stepCharge`), and the proof that the
budget accounting of `machine.rs` charges exactly that.
-/
namespace AikenVerif
open Gen

def optStepCost (cm : CostModel) : Option StepKind → ExBudget
  | some k => stepCostOf cm k
  | none => .zero

/-- Cost of the builtin call (if any) triggered by applying `fn` to `arg`.  The guards here and in
`forceCharge` are spelt as `applyEvaluate`/`forceEvaluate` elaborate theirs, so that one `split`
decides both `if`s. -/
def applyCharge (cm : CostModel) (sem : Sem) (fn arg : Value) : ExBudget :=
  match fn with
  | .builtin b forces args =>
    if (decide (args.length ≠ b.arity) && !decide (forces < b.forceCount)) = true then
      if (args ++ [arg]).length = b.arity then
        match builtinCost cm sem b (args ++ [arg]) with
        | .ok c => c
        | _ => .zero
      else .zero
    else .zero
  | _ => .zero

def forceCharge (cm : CostModel) (sem : Sem) (v : Value) : ExBudget :=
  match v with
  | .builtin b forces args =>
    if forces < b.forceCount then
      if args.length = b.arity then
        match builtinCost cm sem b args with
        | .ok c => c
        | _ => .zero
      else .zero
    else .zero
  | _ => .zero

/-- THE LEDGER: what the cost model charges for the transition out of state `s` — the step cost of
the term former being computed, or the costing function of the builtin being called, applied to the
sizes of its arguments.  Independent of budget and slippage. -/
def stepCharge (cm : CostModel) (sem : Sem) : State → ExBudget
  | .compute _ _ t => optStepCost cm (termKind t)
  | .ret (.awaitArg fn :: _) v => applyCharge cm sem fn v
  | .ret (.awaitFunValue arg :: _) v => applyCharge cm sem v arg
  | .ret (.force :: _) v => forceCharge cm sem v
  | _ => .zero

theorem chargeStep_eff (cfg : Config) (a a' : Acct) (ko : Option StepKind)
    (hk : ∀ k, ko = some k → k ≠ .startUp) (hi : AcctInv cfg.costs a) (h : chargeStep cfg a ko = .ok a') :
    eff cfg.costs a' = (eff cfg.costs a).sub (optStepCost cfg.costs ko) ∧ AcctInv cfg.costs a' := by
  cases ko with
  | none => cases h; exact ⟨(ExBudget.sub_zero _).symm, hi⟩
  | some k => exact stepAndMaybeSpend_eff cfg a a' k (hk k rfl) hi h

/-- a transition out of `.ret (fr :: ctx) v` spends `charge` and either pops the frame or starts a computation -/
def Returns (a : Acct) (charge : ExBudget) (ctx : Ctx) : Outcome (Acct × State) → Prop
  | .ok (a', s') => a' = ⟨a.budget.sub charge, a.counts⟩ ∧ (NonNeg a.budget → NonNeg a'.budget) ∧
      ((∃ c e t, s' = .compute c e t) ∨ ∃ w, s' = .ret ctx w)
  | .oob => ¬ NonNeg (a.budget.sub charge)
  | _ => True

theorem Returns.free (a : Acct) (ctx : Ctx) (s' : State)
    (hs : (∃ c e t, s' = .compute c e t) ∨ ∃ w, s' = .ret ctx w) : Returns a .zero ctx (.ok (a, s')) :=
  ⟨by rw [ExBudget.sub_zero], id, hs⟩

theorem builtinApp_returns (cfg : Config) (a : Acct) (ctx : Ctx) (b : Builtin) (forces : Nat) (args : List Value) :
    Returns a
      (if args.length = b.arity then
        match builtinCost cfg.costs cfg.sem b args with
        | .ok c => c
        | _ => .zero
       else .zero) ctx (builtinApp cfg a ctx b forces args) := by
  unfold builtinApp
  by_cases hl : args.length = b.arity
  · rw [if_pos hl, if_pos hl]
    have h := evalBuiltinApp_cases cfg a b args
    revert h
    cases evalBuiltinApp cfg a b args with
    | ok p =>
      rintro ⟨c, hcost, hp, hn, _⟩
      rw [hcost]
      exact ⟨hp, fun _ => hp ▸ hn, Or.inr ⟨p.2, rfl⟩⟩
    | oob =>
      rintro ⟨c, hcost, hn⟩
      rw [hcost]
      exact hn
    | _ => intro _; trivial
  · rw [if_neg hl, if_neg hl]
    exact Returns.free a ctx _ (Or.inr ⟨_, rfl⟩)

theorem applyEvaluate_returns (cfg : Config) (a : Acct) (ctx : Ctx) (fn arg : Value) :
    Returns a (applyCharge cfg.costs cfg.sem fn arg) ctx (applyEvaluate cfg a ctx fn arg) := by
  cases fn with
  | lam n body env => exact Returns.free a ctx _ (Or.inl ⟨_, _, _, rfl⟩)
  | builtin b forces args =>
    simp only [applyEvaluate, applyCharge]
    split
    · exact builtinApp_returns cfg a ctx b forces (args ++ [arg])
    · trivial
  | _ => trivial

theorem forceEvaluate_returns (cfg : Config) (a : Acct) (ctx : Ctx) (v : Value) :
    Returns a (forceCharge cfg.costs cfg.sem v) ctx (forceEvaluate cfg a ctx v) := by
  cases v with
  | delay body env => exact Returns.free a ctx _ (Or.inl ⟨_, _, _, rfl⟩)
  | builtin b forces args =>
    simp only [forceEvaluate, forceCharge]
    split
    · exact builtinApp_returns cfg a ctx b (forces + 1) args
    · trivial
  | _ => trivial

theorem returnStep_returns (cfg : Config) (a : Acct) (fr : Frame) (ctx : Ctx) (v : Value) :
    Returns a (stepCharge cfg.costs cfg.sem (.ret (fr :: ctx) v)) ctx (returnStep cfg a fr ctx v) := by
  have hc : ∀ c e t, Returns a .zero ctx (.ok (a, .compute c e t)) :=
    fun c e t => Returns.free a ctx _ (Or.inl ⟨c, e, t, rfl⟩)
  cases fr with
  | force => exact forceEvaluate_returns cfg a ctx v
  | awaitFunTerm argEnv arg => exact hc _ _ _
  | awaitArg fn => exact applyEvaluate_returns cfg a ctx fn v
  | awaitFunValue arg => exact applyEvaluate_returns cfg a ctx v arg
  | constr env tag todo done =>
    cases todo with
    | nil => exact Returns.free a ctx _ (Or.inr ⟨_, rfl⟩)
    | cons m ms => exact hc _ _ _
  | cases env branches =>
    obtain ⟨o, _, himpl, _⟩ := cases_lockstep cfg (denotation cfg.sem) a ctx env branches v
    rw [himpl]
    cases o with
    | none => trivial
    | some p => exact hc _ _ _

/-- A transition lowers `eff` by exactly the ledger's charge for `s`; at the end nothing is left pending. -/
def StepCharged (cfg : Config) (a : Acct) (s : State) : StepResult → Prop
  | .next a' _ => eff cfg.costs a' = (eff cfg.costs a).sub (stepCharge cfg.costs cfg.sem s) ∧ AcctInv cfg.costs a'
  | .done a' _ => a'.budget = eff cfg.costs a ∧ NonNeg a'.budget
  | _ => True

theorem step_charged (cfg : Config) (a : Acct) (s : State) (hi : AcctInv cfg.costs a) :
    StepCharged cfg a s (step cfg a s) := by
  cases s with
  | compute ctx env t =>
    obtain ⟨o, _, himpl⟩ := compute_lockstep cfg.sem (denotation cfg.sem) ctx env t
    rw [step, himpl]
    cases hcs : chargeStep cfg a (termKind t) with
    | ok a1 =>
      cases o with
      | none => trivial
      | some s' => exact chargeStep_eff cfg a a1 (termKind t) (termKind_ne_startUp t) hi hcs
    | _ => trivial
  | ret ctx v =>
    cases ctx with
    | nil =>
      rw [step_ret_nil]
      rcases flush_cases cfg a with hf | ⟨hz, hf⟩ <;> rw [hf]
      · rcases spendUnbudgeted_cases cfg.costs a hi.len with hs | hs | ⟨a', hs, hb, hn, _⟩ <;> rw [hs]
        · trivial
        · trivial
        · exact ⟨hb, hn⟩
      · rw [hi.len] at hz
        exact ⟨by rw [eff, hi.zero hz, ExBudget.sub_zero], hi.nonneg⟩
    | cons fr ctx =>
      rw [step]
      have hr := returnStep_returns cfg a fr ctx v
      revert hr
      cases returnStep cfg a fr ctx v with
      | ok p =>
        obtain ⟨a', s'⟩ := p
        rintro ⟨rfl, hn, _⟩
        exact spendBudget_inv cfg.costs a _ hi (hn hi.nonneg)
      | _ => intro _; trivial

end AikenVerif
