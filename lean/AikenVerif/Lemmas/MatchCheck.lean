import AikenVerif.Lemmas.MatchMissing
/-!
C07, around the usefulness algorithm: the driver loop of `Environment::check_exhaustiveness` on the
one-column matrix of the clauses; source patterns against matrix patterns (`bind` succeeds where
`simplify` matches, and binds each variable to the sub-value at its occurrence path); the argument
order of a hoisted clause call; `firstMatch` and `firstBindFrom` pick the first clause that matches.
-/
namespace AikenVerif.Match

def rowsOf (cs : List Pat) : Matrix := cs.map (fun p => [p])

theorem rowsOf_append (a b : List Pat) : rowsOf (a ++ b) = rowsOf a ++ rowsOf b := by
  simp [rowsOf]

theorem rowsOf_matches (cs : List Pat) (x : Val) :
    (∃ r ∈ rowsOf cs, pmatchL r [x] = true) ↔ ∃ p ∈ cs, pmatch p x = true := by
  simp only [rowsOf, List.mem_map]
  constructor
  · rintro ⟨r, ⟨p, hp, e⟩, hm⟩
    subst e
    exact ⟨p, hp, by simpa [pmatchL] using hm⟩
  · rintro ⟨p, hp, hm⟩
    exact ⟨[p], ⟨p, hp, rfl⟩, by simpa [pmatchL] using hm⟩

theorem rowsOf_unmatched (cs : List Pat) (x : Val) :
    (∀ r ∈ rowsOf cs, pmatchL r [x] = false) ↔ ∀ p ∈ cs, pmatch p x = false := by
  simp [rowsOf, pmatchL]

theorem rowsOf_hasTy {sg : Sig} {cs : List Pat} {t : Ty} (h : ∀ p ∈ cs, Pat.hasTy sg p t = true) :
    Matrix.hasTy sg (rowsOf cs) [t] = true := by
  simpa [Matrix.hasTy, rowsOf, Pat.hasTyL] using h

theorem escapes_singleton {sg : Sig} {t : Ty} {M : Matrix} {p : Pat} :
    Escapes sg [t] M [p] ↔
      ∃ x, Val.hasTy sg x t = true ∧ pmatch p x = true ∧ ∀ r ∈ M, pmatchL r [x] = false := by
  constructor
  · rintro ⟨vs, h1, h2, h3⟩
    obtain ⟨x, rfl, hx⟩ := Val.hasTyL_singleton h1
    exact ⟨x, hx, by simpa [pmatchL] using h2, h3⟩
  · rintro ⟨x, hx, hm, h3⟩
    exact ⟨[x], by simp [Val.hasTyL, hx], by simp [pmatchL, hm], h3⟩

theorem useful_rowsOf_iff {sg : Sig} {inh : List Val} {t : Ty} {cs : List Pat} {p : Pat}
    (hs : Sig.ok sg = true) (hi : inhOk sg inh = true) (ht : Ty.ok sg t = true)
    (hcs : ∀ q ∈ cs, Pat.hasTy sg q t = true) (hp : Pat.hasTy sg p t = true) :
    isUseful (rowsOf cs) [p] = true ↔
      ∃ x, Val.hasTy sg x t = true ∧ pmatch p x = true ∧ ∀ q ∈ cs, pmatch q x = false := by
  rw [useful_iff_gen hs hi (rowsOf_hasTy hcs) (by simp [Pat.hasTyL, hp]) (by simpa using ht),
    escapes_singleton]
  simp only [rowsOf_unmatched]

theorem covered_of_not_useful {sg : Sig} {t : Ty} {cs : List Pat} {p : Pat}
    (hcs : ∀ q ∈ cs, Pat.hasTy sg q t = true) (hp : Pat.hasTy sg p t = true)
    (hu : isUseful (rowsOf cs) [p] = false) :
    ∀ x, Val.hasTy sg x t = true → pmatch p x = true → ∃ q ∈ cs, pmatch q x = true := by
  intro x hx hm
  exact (rowsOf_matches cs x).mp (useful_sound_gen _ _ [t] (rowsOf_hasTy hcs)
    (by simp [Pat.hasTyL, hp]) hu [x] (by simp [Val.hasTyL, hx]) (by simp [pmatchL, hm]))

theorem flatten_eq_nil_of_length {M : Matrix} (h : ∀ r ∈ M, r.length = 1) :
    M.flatten = [] ↔ M = [] := by
  rw [List.flatten_eq_nil_iff]
  refine ⟨fun hf => List.eq_nil_iff_forall_not_mem.mpr fun r hr => ?_, fun e => by simp [e]⟩
  have := h r hr
  rw [hf r hr] at this
  cases this

theorem mem_flatten_of_length {M : Matrix} (h : ∀ r ∈ M, r.length = 1) (q : Pat) :
    q ∈ M.flatten ↔ [q] ∈ M := by
  simp only [List.mem_flatten]
  refine ⟨fun ⟨r, hr, hq⟩ => ?_, fun hr => ⟨[q], hr, List.mem_singleton_self q⟩⟩
  obtain ⟨p, rfl⟩ := List.length_eq_one_iff.mp (h r hr)
  exact List.mem_singleton.mp hq ▸ hr

theorem checkLoop_cases (cs : List Pat) : ∀ (M : Matrix) (i : Nat),
    (∃ j, ∃ h : j < cs.length, checkLoop M i cs = .redundant (i + j) ∧
        isUseful (M ++ rowsOf (cs.take j)) [cs[j]] = false) ∨
    ((∀ k (h : k < cs.length), isUseful (M ++ rowsOf (cs.take k)) [cs[k]] = true) ∧
      checkLoop M i cs = checkLoop (M ++ rowsOf cs) (i + cs.length) []) := by
  induction cs with
  | nil => intro M i; exact Or.inr ⟨nofun, by simp [rowsOf]⟩
  | cons p ps ih =>
    intro M i
    -- the matrix seen by clause `k + 1` of `p :: ps` is the one seen by clause `k` of `ps`
    have hshift : ∀ k, M ++ [[p]] ++ rowsOf (ps.take k) = M ++ rowsOf ((p :: ps).take (k + 1)) := by
      intro k; simp [rowsOf]
    have hall : M ++ [[p]] ++ rowsOf ps = M ++ rowsOf (p :: ps) := by simp [rowsOf]
    by_cases hu : isUseful M [p] = true
    · have hstep : checkLoop M i (p :: ps) = checkLoop (M ++ [[p]]) (i + 1) ps := by
        rw [checkLoop, if_pos hu]
      rcases ih (M ++ [[p]]) (i + 1) with ⟨j, hj, e, hn⟩ | ⟨hall', e⟩
      · refine Or.inl ⟨j + 1, Nat.succ_lt_succ hj, by rw [hstep, e, Nat.add_right_comm]; rfl, ?_⟩
        rw [← hshift]; exact hn
      · refine Or.inr ⟨fun k hk => ?_, by rw [hstep, e, hall, Nat.add_right_comm]; rfl⟩
        cases k with
        | zero => simpa [rowsOf] using hu
        | succ k => rw [← hshift]; exact hall' k (Nat.lt_of_succ_lt_succ hk)
    · have hstep : checkLoop M i (p :: ps) = .redundant i := by rw [checkLoop, if_neg hu]
      exact Or.inl ⟨0, Nat.succ_pos _, hstep, by simpa [rowsOf] using hu⟩

theorem checkLoop_ok (cs : List Pat) (M : Matrix) (i : Nat) :
    checkLoop M i cs = .ok ↔
      (∀ k (h : k < cs.length), isUseful (M ++ rowsOf (cs.take k)) [cs[k]] = true) ∧
        collectMissing (M ++ rowsOf cs) 1 = [] := by
  rcases checkLoop_cases cs M i with ⟨j, hj, e, hn⟩ | ⟨hall, e⟩
  · rw [e]
    refine ⟨nofun, fun h => ?_⟩
    rw [h.1 j hj] at hn
    cases hn
  · rw [e, checkLoop, ← flatten_eq_nil_of_length (collectMissing_length _ 1)]
    constructor
    · intro h
      refine ⟨hall, ?_⟩
      split at h
      · assumption
      · cases h
    · intro h
      rw [h.2]

theorem checkLoop_redundant (cs : List Pat) (M : Matrix) (i k : Nat)
    (h : checkLoop M i cs = .redundant k) :
    ∃ j, k = i + j ∧ ∃ h : j < cs.length, isUseful (M ++ rowsOf (cs.take j)) [cs[j]] = false := by
  rcases checkLoop_cases cs M i with ⟨j, hj, e, hn⟩ | ⟨_, e⟩
  · rw [e] at h
    cases h
    exact ⟨j, rfl, hj, hn⟩
  · rw [e, checkLoop] at h
    split at h <;> cases h

theorem checkLoop_notExhaustive (cs : List Pat) (M : Matrix) (i : Nat) (ms : List Pat)
    (h : checkLoop M i cs = .notExhaustive ms) :
    ms ≠ [] ∧ ms = (collectMissing (M ++ rowsOf cs) 1).flatten := by
  rcases checkLoop_cases cs M i with ⟨j, hj, e, hn⟩ | ⟨_, e⟩
  · rw [e] at h
    cases h
  · rw [e, checkLoop] at h
    split at h
    · cases h
    · rename_i hne
      cases h
      exact ⟨hne, rfl⟩

theorem bind_isSome (p : SPat) : ∀ (v : Val), (bind p v).isSome = pmatch (simplify p) v := by
  refine SPat.rec (motive_2 := fun ps => ∀ (vs : List Val),
      (bindL ps vs).isSome = pmatchL (simplifyL ps) vs) ?var ?discard ?as_ ?lit ?ctor ?nil ?cons p
  case var => intro x v; simp [bind, simplify, pmatch]
  case discard => intro v; simp [bind, simplify, pmatch]
  case as_ => intro x p ih v; simp [bind, simplify, ih v]
  case lit =>
    intro l v
    cases v with
    | lit l' => by_cases h : l = l' <;> simp [bind, simplify, pmatch, h]
    | ctor c vs => simp [bind, simplify, pmatch]
  case ctor =>
    intro c alts ps ih v
    cases v with
    | lit l => simp [bind, simplify, pmatch]
    | ctor c' vs => by_cases e : c = c' <;> simp [bind, simplify, pmatch, e, ih vs]
  case nil =>
    intro vs
    cases vs <;> simp [bindL, simplifyL, pmatchL]
  case cons =>
    intro p ps ihp ihps vs
    cases vs with
    | nil => simp [bindL, simplifyL, pmatchL]
    | cons v vs =>
      simp only [bindL, simplifyL, pmatchL, ← ihp v, ← ihps vs]
      cases bind p v <;> simp

/-- a vector is matched like the arguments of a constructor -/
theorem bindL_isSome : ∀ (ps : List SPat) (vs : List Val), (bindL ps vs).isSome = pmatchL (simplifyL ps) vs := by
  intro ps vs
  simpa [bind, simplify, pmatch] using bind_isSome (.ctor 0 [] ps) (.ctor 0 vs)

theorem subAt_append (π : List Nat) (k : Nat) (root : Val) {c : Nat} {vs : List Val}
    (h : subAt π root = some (.ctor c vs)) : subAt (π ++ [k]) root = vs[k]? := by
  induction π generalizing root with
  | nil =>
    simp only [subAt, Option.some.injEq] at h
    subst h
    simp only [List.nil_append, subAt]
    cases vs[k]? <;> rfl
  | cons j π ih =>
    cases root with
    | lit l => simp [subAt] at h
    | ctor c' ws =>
      simp only [subAt, List.cons_append] at h ⊢
      cases hw : ws[j]? with
      | none => rw [hw] at h; cases h
      | some w => rw [hw] at h; exact ih w h

mutual
theorem bind_paths : ∀ (p : SPat) (v root : Val) (π : List Nat) (bs : List (Nat × Val)),
    subAt π root = some v → bind p v = some bs →
      (varPaths p π).map (fun xp => (xp.1, subAt xp.2 root)) = bs.map (fun b => (b.1, some b.2))
  | .var x, v, root, π, bs, hs, hb => by
    simp only [bind, Option.some.injEq] at hb; subst hb
    simp [varPaths, hs]
  | .discard, v, root, π, bs, hs, hb => by
    simp only [bind, Option.some.injEq] at hb; subst hb
    simp [varPaths]
  | .as_ x p, v, root, π, bs, hs, hb => by
    simp only [bind] at hb
    obtain ⟨bs', hp, rfl⟩ := Option.map_eq_some_iff.mp hb
    simp [varPaths, hs, bind_paths p v root π bs' hs hp]
  | .lit l, .lit l', root, π, bs, hs, hb => by
    simp only [bind] at hb
    split at hb
    · cases hb; simp [varPaths]
    · cases hb
  | .lit _, .ctor _ _, root, π, bs, hs, hb => by simp [bind] at hb
  | .ctor _ _ _, .lit _, root, π, bs, hs, hb => by simp [bind] at hb
  | .ctor c _ ps, .ctor c' vs, root, π, bs, hs, hb => by
    simp only [bind] at hb
    split at hb
    · simp only [varPaths]
      exact bindL_paths ps vs root π 0 bs c' vs (by simp) hs hb
    · cases hb
/-- `ws` are the fields from the `k`-th on of the constructor value `.ctor c vs` that stands at path `π` of `root`. -/
theorem bindL_paths : ∀ (ps : List SPat) (ws : List Val) (root : Val) (π : List Nat) (k : Nat)
    (bs : List (Nat × Val)) (c : Nat) (vs : List Val),
    ws = vs.drop k → subAt π root = some (.ctor c vs) → bindL ps ws = some bs →
      (varPathsL ps π k).map (fun xp => (xp.1, subAt xp.2 root)) = bs.map (fun b => (b.1, some b.2))
  | [], [], root, π, k, bs, c, vs, _, _, hb => by
    simp only [bindL, Option.some.injEq] at hb; subst hb
    simp [varPathsL]
  | [], _ :: _, root, π, k, bs, c, vs, _, _, hb => by simp [bindL] at hb
  | _ :: _, [], root, π, k, bs, c, vs, _, _, hb => by simp [bindL] at hb
  | p :: ps, w :: ws, root, π, k, bs, c, vs, hd, hs, hb => by
    simp only [bindL] at hb
    cases hp : bind p w with
    | none => rw [hp] at hb; cases hb
    | some b =>
      rw [hp] at hb
      obtain ⟨bs', hps, rfl⟩ := Option.map_eq_some_iff.mp hb
      have hk : vs[k]? = some w := by rw [← List.head?_drop, ← hd]; rfl
      have hd' : ws = vs.drop (k + 1) := by rw [← List.drop_drop, ← hd]; rfl
      have hsub : subAt (π ++ [k]) root = some w := by rw [subAt_append π k root hs, hk]
      rw [varPathsL, List.map_append, List.map_append, bind_paths p w root (π ++ [k]) b hsub hp,
        bindL_paths ps ws root π (k + 1) bs' c vs hd' hs hps]
end

theorem find_assign {leaf : List Assign} (hd : (leaf.map (·.1)).Nodup) {p : Assign} (hp : p ∈ leaf) :
    leaf.find? (fun a => a.1 == p.1) = some p := by
  induction leaf with
  | nil => cases hp
  | cons a leaf ih =>
    simp only [List.map_cons, List.nodup_cons] at hd
    simp only [List.mem_cons] at hp
    rcases hp with e | hp
    · subst e; simp
    · have hne : ¬ a.1 = p.1 := fun e => hd.1 (e ▸ List.mem_map.mpr ⟨p, hp, rfl⟩)
      simp [hne, ih hd.2 hp]

theorem reorderArgs_eq {params leaf : List Assign} (hd : (leaf.map (·.1)).Nodup)
    (hsub : ∀ p ∈ params, p ∈ leaf) : reorderArgs params leaf = params := by
  simp only [reorderArgs]
  conv => rhs; rw [← List.map_id params]
  apply List.map_congr_left
  intro p hp
  simp [find_assign hd (hsub p hp)]

theorem simplifyL_eq_map (ps : List SPat) : simplifyL ps = ps.map simplify := by
  induction ps with
  | nil => simp [simplifyL]
  | cons p ps ih => simp [simplifyL, ih]

theorem firstMatchFrom_succ (b : Nat) (cs : List Pat) (x : Val) :
    firstMatchFrom (b + 1) cs x = (firstMatchFrom b cs x).map (· + 1) := by
  induction cs generalizing b with
  | nil => rfl
  | cons p ps ih =>
    simp only [firstMatchFrom]
    split
    · rfl
    · exact ih (b + 1)

theorem firstMatch_cons (p : Pat) (ps : List Pat) (x : Val) :
    firstMatch (p :: ps) x = if pmatch p x then some 0 else (firstMatch ps x).map (· + 1) := by
  simp only [firstMatch, firstMatchFrom, firstMatchFrom_succ]

theorem firstMatch_cons_zero (p : Pat) (ps : List Pat) (x : Val) :
    firstMatch (p :: ps) x = some 0 ↔ pmatch p x = true := by
  rw [firstMatch_cons]
  cases pmatch p x <;> simp

theorem firstMatch_cons_succ (p : Pat) (ps : List Pat) (x : Val) (i : Nat) :
    firstMatch (p :: ps) x = some (i + 1) ↔ pmatch p x = false ∧ firstMatch ps x = some i := by
  rw [firstMatch_cons]
  cases pmatch p x <;> simp

theorem firstMatch_isSome (cs : List Pat) (x : Val) :
    (firstMatch cs x).isSome = cs.any (pmatch · x) := by
  induction cs with
  | nil => rfl
  | cons p ps ih =>
    rw [firstMatch_cons, List.any_cons, ← ih]
    cases pmatch p x <;> simp

theorem firstBindFrom_index (i : Nat) (cs : List SPat) (x : Val) :
    (firstBindFrom i cs x).map (·.1) = firstMatchFrom i (cs.map simplify) x := by
  induction cs generalizing i with
  | nil => simp [firstBindFrom, firstMatchFrom]
  | cons p ps ih =>
    have h := bind_isSome p x
    simp only [firstBindFrom, List.map_cons, firstMatchFrom]
    cases hb : bind p x with
    | none => rw [hb] at h; simp at h; simp [h, ih]
    | some b => rw [hb] at h; simp at h; simp [h]

end AikenVerif.Match
