import AikenVerif.Lemmas.ShrinkOrder
/-!
Every pass of `simplify` changes the counterexample only through `consider`, and only with
candidates that are `≤` the current choices in shortlex order.  `Steps run s t` records that;
each loop is shown to end with `ok` within a stated fuel (no `outOfFuel`, no `panic`) in a state
reached by `Steps` from wherever the pass started (`Res.EndsIn`).  All invariants of `simplify` are
then instances of the one induction on `Steps`, `Steps.preserves`.
-/
namespace AikenVerif.Shrink

variable {α : Type} (run : Choices → Status α)

/-- the three ways `consider` can go: the candidate is the current sequence; the cache says `keep` and it
is taken; or (the third way) the state keeps its pair, and a `Keep` answer is only ever turned down for a
longer candidate -/
theorem consider_cases (s : CE α) (c : Choices) :
    (c = s.choices ∧ consider run s c = (true, s)) ∨
    (∃ v, (s.cache.get run c).1 = .keep v ∧
      consider run s c = (true, { value := v, choices := c, cache := (s.cache.get run c).2 })) ∨
    (consider run s c = (false, { s with cache := (s.cache.get run c).2 }) ∧
      ∀ v, (s.cache.get run c).1 = .keep v → s.choices.length < c.length) := by
  unfold consider
  split
  · exact .inl ⟨‹c = s.choices›, rfl⟩
  · right
    split
    · rename_i v cache hg
      rw [hg]
      split
      · exact .inl ⟨v, rfl, rfl⟩
      · rename_i hacc
        refine .inr ⟨rfl, fun _ _ => ?_⟩
        rw [Bool.or_eq_true, decide_eq_true_eq] at hacc
        omega
    · rename_i st cache hst hg
      rw [hg]
      exact .inr ⟨rfl, fun v hv => (hst v hv).elim⟩

theorem consider_choices (s : CE α) (c : Choices) :
    (consider run s c).2.choices = if (consider run s c).1 then c else s.choices := by
  rcases consider_cases run s c with ⟨rfl, e⟩ | ⟨_, _, e⟩ | ⟨e, _⟩ <;> rw [e] <;> rfl

theorem consider_true {s s' : CE α} {c : Choices} (h : consider run s c = (true, s')) :
    s'.choices = c := by
  have := consider_choices run s c
  rwa [h] at this

theorem consider_false {s s' : CE α} {c : Choices} (h : consider run s c = (false, s')) :
    s'.choices = s.choices := by
  have := consider_choices run s c
  rwa [h] at this

inductive Steps : CE α → CE α → Prop where
  | refl (s : CE α) : Steps s s
  | step (s : CE α) (c : Choices) (t : CE α) :
      shortlexLe c s.choices = true → Steps (consider run s c).2 t → Steps s t

theorem Steps.trans {s t u : CE α} (h1 : Steps run s t) (h2 : Steps run t u) : Steps run s u := by
  induction h1 with
  | refl => exact h2
  | step s c t hc _ ih => exact Steps.step s c _ hc (ih h2)

theorem Steps.one (s : CE α) (c : Choices) (h : shortlexLe c s.choices = true) :
    Steps run s (consider run s c).2 :=
  Steps.step s c _ h (Steps.refl _)

theorem Steps.one' {s s' : CE α} {c : Choices} {b : Bool} (h : shortlexLe c s.choices = true)
    (hc : consider run s c = (b, s')) : Steps run s s' := by
  have := Steps.one run s c h
  rw [hc] at this; exact this

theorem Steps.preserves {Inv : CE α → Prop}
    (hstep : ∀ s c, shortlexLe c s.choices = true → Inv s → Inv (consider run s c).2)
    {s t : CE α} (h : Steps run s t) (hs : Inv s) : Inv t := by
  induction h with
  | refl => exact hs
  | step s c t hc _ ih => exact ih (hstep s c hc hs)

/-- `never_larger`, in its inductive form -/
theorem Steps.le {s t : CE α} (h : Steps run s t) : shortlexLe t.choices s.choices = true := by
  refine h.preserves run (Inv := fun t => shortlexLe t.choices s.choices = true) ?_
    (shortlexLe_refl _)
  intro s c hc hs
  rw [consider_choices]
  split
  · exact shortlexLe_trans hc hs
  · exact hs

theorem Steps.length_le {s t : CE α} (h : Steps run s t) : t.choices.length ≤ s.choices.length :=
  shortlexLe_length (Steps.le run h)

/-- steps that keep the length -/
structure LSteps (s t : CE α) : Prop where
  steps : Steps run s t
  length : t.choices.length = s.choices.length

theorem LSteps.refl (s : CE α) : LSteps run s s := ⟨Steps.refl s, rfl⟩

theorem LSteps.trans {s t u : CE α} (h1 : LSteps run s t) (h2 : LSteps run t u) : LSteps run s u :=
  ⟨Steps.trans run h1.steps h2.steps, h2.length.trans h1.length⟩

def Res.EndsIn {σ : Type} (r : Res σ) (Q : σ → Prop) : Prop := ∃ s, r = .ok s ∧ Q s

theorem Res.EndsIn.ok {σ : Type} {Q : σ → Prop} {s : σ} (h : Q s) : (Res.ok s).EndsIn Q := ⟨s, rfl, h⟩

theorem Res.EndsIn.bind {σ τ : Type} {r : Res σ} {f : σ → Res τ} {P : σ → Prop} {Q : τ → Prop}
    (h : r.EndsIn P) (hf : ∀ s, P s → (f s).EndsIn Q) : (r.bind f).EndsIn Q := by
  obtain ⟨s, rfl, hs⟩ := h
  exact hf s hs

theorem Res.EndsIn.of_eq {σ : Type} {r : Res σ} {Q : σ → Prop} {s : σ} (h : r.EndsIn Q)
    (e : r = .ok s) : Q s := by
  obtain ⟨s', rfl, hs⟩ := h
  cases e
  exact hs

theorem Res.EndsIn.mono {σ : Type} {r : Res σ} {P Q : σ → Prop} (h : r.EndsIn P)
    (hPQ : ∀ s, P s → Q s) : r.EndsIn Q :=
  let ⟨s, e, hs⟩ := h
  ⟨s, e, hPQ s hs⟩

theorem applyIvs_length : ∀ (ivs : List (Nat × UInt8)) (cs cs' : Choices),
    applyIvs cs ivs = some cs' → cs'.length = cs.length
  | [], cs, cs', h => by cases h; rfl
  | (i, v) :: rest, cs, cs', h => by
    rw [applyIvs] at h
    split at h
    · cases h
    · rw [applyIvs_length rest _ _ h, List.length_set]

theorem replace_lsteps {s s₁ : CE α} {b : Bool} {ivs : List (Nat × UInt8)}
    (hr : replace run s ivs = (b, s₁))
    (h : ∀ cs', applyIvs s.choices ivs = some cs' → lexLe cs' s.choices = true) :
    LSteps run s s₁ := by
  have hs₁ : (replace run s ivs).2 = s₁ := congrArg Prod.snd hr
  subst hs₁
  unfold replace
  split
  · exact LSteps.refl run s
  · rename_i cs hcs
    have hl := applyIvs_length _ _ _ hcs
    refine ⟨Steps.one run s cs (shortlexLe_of_lexLe hl (h cs hcs)), ?_⟩
    rw [consider_choices]
    split
    · exact hl
    · rfl

theorem replace_true {s s' : CE α} {ivs : List (Nat × UInt8)} (h : replace run s ivs = (true, s')) :
    applyIvs s.choices ivs = some s'.choices := by
  unfold replace at h
  split at h
  · cases h
  · rename_i cs hcs
    rw [hcs, consider_true run h]

theorem replace_false {s s' : CE α} {ivs : List (Nat × UInt8)} (h : replace run s ivs = (false, s')) :
    s'.choices = s.choices := by
  unfold replace at h
  split at h
  · cases h; rfl
  · exact consider_false run h

/-- what the two closures handed to `binary_search_replace` have in common -/
def BsOk (f : UInt8 → List (Nat × UInt8)) (i : Nat) : Prop :=
  ∀ (cs cs' : Choices) (v w : UInt8), applyIvs cs (f v) = some cs' → cs[i]? = some w → v < w →
    lexLe cs' cs = true ∧ cs'[i]? = some v

theorem applyIvs_single {cs cs' : Choices} {i : Nat} {v w : UInt8} (hw : cs[i]? = some w)
    (hv : v ≤ w) (h : applyIvs cs [(i, v)] = some cs') :
    lexLe cs' cs = true ∧ cs'[i]? = some v := by
  rw [applyIvs, applyIvs] at h
  split at h
  · cases h
  · cases h
    exact ⟨lexLe_set cs i v w hw hv, List.getElem?_set_self (by omega)⟩

theorem applyIvs_pair {cs cs' : Choices} {i j : Nat} {v w x : UInt8} (hij : i < j)
    (hw : cs[i]? = some w) (hv : v < w) (h : applyIvs cs [(i, v), (j, x)] = some cs') :
    lexLe cs' cs = true ∧ cs'[i]? = some v := by
  rw [applyIvs, applyIvs, applyIvs] at h
  split at h
  · cases h
  · split at h
    · cases h
    · cases h
      refine ⟨lexLe_set_set_lt cs i j v w x hw hv hij, ?_⟩
      rw [List.getElem?_set_ne (by omega)]
      exact List.getElem?_set_self (by omega)

theorem bsOk_single (i : Nat) : BsOk (fun v => [(i, v)]) i :=
  fun _ _ _ _ h hw hv => applyIvs_single hw (UInt8.le_of_lt hv) h

theorem bsOk_pair (i j : Nat) (iv jv : UInt8) (hij : i < j) : BsOk (pairIvs i j iv jv) i :=
  fun _ _ _ _ h hw hv => applyIvs_pair hij hw hv h

/-- the search keeps `lo < hi ≤` the value `w` at position `i`, so every probe `mid` is below `w` -/
theorem bsLoop_ok {f : UInt8 → List (Nat × UInt8)} {i : Nat} (hf : BsOk f i) {s₀ : CE α}
    (fuel : Nat) (lo hi : UInt8) (s : CE α) (w : UInt8) (hw : s.choices[i]? = some w)
    (hhi : hi.toNat ≤ w.toNat) (hlo : lo.toNat < 255) (hfuel : hi.toNat - lo.toNat < fuel)
    (h₀ : LSteps run s₀ s) : (bsLoop run f fuel lo hi s).EndsIn (LSteps run s₀) := by
  fun_induction bsLoop run f fuel lo hi s generalizing w with
  | case1 => omega
  | case2 fuel lo hi s hlt mid s₁ hr ih =>
    -- accepted: `hi := mid`, and position `i` now holds `mid`
    have hm : lo.toNat < mid.toNat ∧ mid.toNat < hi.toNat :=
      mid_bounds lo hi ((succ_lt_iff hlo).mp hlt)
    have hmw : mid < w := UInt8.lt_iff_toNat_lt.mpr (by omega)
    have h₁ := replace_lsteps run hr fun _ h => (hf _ _ _ _ h hw hmw).1
    exact ih mid (hf _ _ _ _ (replace_true run hr) hw hmw).2 (Nat.le_refl _) hlo (by omega)
      (h₀.trans run h₁)
  | case3 fuel lo hi s hlt mid s₁ hr ih =>
    -- rejected: `lo := mid`
    have hm : lo.toNat < mid.toNat ∧ mid.toNat < hi.toNat :=
      mid_bounds lo hi ((succ_lt_iff hlo).mp hlt)
    have hmw : mid < w := UInt8.lt_iff_toNat_lt.mpr (by omega)
    have h₁ := replace_lsteps run hr fun _ h => (hf _ _ _ _ h hw hmw).1
    have := hi.toNat_lt
    exact ih w (replace_false run hr ▸ hw) hhi (by omega) (by omega) (h₀.trans run h₁)
  | case4 => exact .ok h₀

theorem binarySearchReplace_ok {f : UInt8 → List (Nat × UInt8)} {i : Nat} (hf : BsOk f i)
    (F : Nat) (hF : 256 ≤ F) (hi : UInt8) (s : CE α) (w : UInt8)
    (hw : s.choices[i]? = some w) (hhi : hi.toNat ≤ w.toNat)
    (h0 : ∀ cs', applyIvs s.choices (f 0) = some cs' → lexLe cs' s.choices = true) :
    (binarySearchReplace run f F 0 hi s).EndsIn (LSteps run s) := by
  unfold binarySearchReplace
  split
  · rename_i s₁ hr
    exact .ok (replace_lsteps run hr h0)
  · rename_i s₁ hr
    have := hi.toNat_lt
    exact bsLoop_ok run hf F 0 hi s₁ w (replace_false run hr ▸ hw) hhi (by decide) (by omega)
      (replace_lsteps run hr h0)

end AikenVerif.Shrink
