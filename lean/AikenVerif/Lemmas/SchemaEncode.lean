import AikenVerif.Model.Schema
/-! Every typed value, serialised, is accepted by `expect`. -/
namespace AikenVerif.Blueprint

/-- the type checker's `DecoratorTagOverlap` rule: constructor indices of a declaration are distinct -/
def TagsDistinct (decls : Decls) : Prop :=
  ∀ dt ∈ decls, ((ctorTable 0 dt.ctors).map (·.1)).Nodup

instance (decls : Decls) : Decidable (TagsDistinct decls) := by
  unfold TagsDistinct; exact inferInstance

theorem allOk_of_mapOpt {α β : Type} {f : α → Option β} {g : β → Outcome} {vs : List α}
    {ds : List β} (h : mapOpt f vs = some ds) (hfg : ∀ v d, f v = some d → g d = .ok) :
    allOk g ds = .ok := by
  fun_induction mapOpt f vs generalizing ds with
  | case1 => cases h; rfl
  | case2 => cases h
  | case3 => cases h
  | case4 v vs y hv ys hvs ih =>
    cases h
    simp only [allOk, hfg v y hv, ih hvs]

theorem zipOk_of_zipOpt {σ α β : Type} {f : σ → α → Option β} {g : σ → β → Outcome} {ts : List σ}
    {vs : List α} {ds : List β} (h : zipOpt f ts vs = some ds)
    (hfg : ∀ t v d, f t v = some d → g t d = .ok) : zipOk g ts ds = .ok ∧ ts.length = ds.length := by
  fun_induction zipOpt f ts vs generalizing ds with
  | case1 => cases h; exact ⟨rfl, rfl⟩
  | case2 => cases h
  | case3 => cases h
  | case4 t ts v vs y hv ys hvs ih =>
    cases h
    obtain ⟨h1, h2⟩ := ih hvs
    exact ⟨by simp only [zipOk, hfg t v y hv, h1], congrArg (· + 1) h2⟩
  | case5 => cases h

theorem ctorLoop_at {σ : Type} (m : Outcome) (g : σ → Data → Outcome) (fields : List Data)
    {cs : List (Nat × List σ)} {pos i : Nat} {fs : List σ} (hnd : (cs.map (·.1)).Nodup)
    (h : cs[pos]? = some (i, fs)) :
    ctorLoop m g i fields cs = if fs.length ≠ fields.length then m else zipOk g fs fields := by
  induction cs generalizing pos with
  | nil => cases h
  | cons c cs ih =>
    obtain ⟨j, ss⟩ := c
    rw [List.map_cons, List.nodup_cons] at hnd
    cases pos with
    | zero => cases h; exact if_pos rfl
    | succ pos =>
      replace h : cs[pos]? = some (i, fs) := h
      -- an earlier constructor with the same index would repeat it
      have hmem : i ∈ cs.map (·.1) := List.mem_map_of_mem (f := (·.1)) (List.mem_of_getElem? h)
      have hji : j ≠ i := fun e => hnd.1 (e ▸ hmem)
      exact (if_neg hji).trans (ih hnd.2 h)

theorem adtShape_variants {decls : Decls} {n : Nat} {args : ATys} {cs : List (Nat × List ATy)}
    (h : adtShape decls n args = .variants cs) :
    ∃ dt, dt ∈ decls ∧ cs.map (·.1) = (ctorTable 0 dt.ctors).map (·.1) := by
  unfold adtShape at h
  split at h
  · cases h
  · rename_i dt hdt
    split at h
    · cases h
    · cases h
      exact ⟨dt, List.mem_of_getElem? hdt, by simp [List.map_map, Function.comp_def]⟩

theorem inh_list {decls : Decls} {t : ATy} (hnp : ∀ a b, t = .pair a b → False) (fuel : Nat)
    (xs : List Data) : inh decls (fuel + 1) (.list t) (.list xs) = allOk (fun x => inh decls fuel t x) xs := by
  cases t <;> first | rfl | exact (hnp _ _ rfl).elim

theorem encode_inh {decls : Decls} (hw : TagsDistinct decls)
    (fuel : Nat) (t : ATy) (v : Val) (d : Data) (h : encode decls fuel t v = some d) :
      inh decls fuel t d = .ok := by
  -- one case per arm of `encode`; an arm that returns `none` contradicts `h`, one that returns a
  -- literal datum fixes `d`
  fun_induction encode decls fuel t v generalizing d with
  | case1 | case8 | case16 | case17 | case19 | case20 | case22 => cases h
  -- int, bytes, void, data, never, `None`
  | case2 | case3 | case5 | case6 | case9 | case11 => cases h; rfl
  -- bool
  | case4 _ b => cases h; cases b <;> rfl
  -- ordering
  | case7 _ n hn =>
    cases h
    obtain rfl | rfl | rfl : n = 0 ∨ n = 1 ∨ n = 2 := by omega
    all_goals rfl
  -- `Some x`
  | case10 fuel t x ih =>
    obtain ⟨x, hx, rfl⟩ := Option.map_eq_some_iff.mp h
    simp only [inh, ctorLoop, zipOk, ih x hx]
    rfl
  -- list of pairs
  | case12 fuel a b vs iha ihb =>
    obtain ⟨es, hes, rfl⟩ := Option.map_eq_some_iff.mp h
    simp only [inh]
    refine allOk_of_mapOpt hes fun v e hv => ?_
    split at hv
    · split at hv
      · cases hv
        rename_i hkey hval
        rw [iha _ _ hkey, ihb _ _ hval]; rfl
      · cases hv
    · cases hv
  -- list
  | case13 fuel t vs hnp ih =>
    obtain ⟨ds, hds, rfl⟩ := Option.map_eq_some_iff.mp h
    rw [inh_list hnp]
    exact allOk_of_mapOpt hds ih
  -- tuple
  | case14 fuel ts vs ih =>
    obtain ⟨ds, hds, rfl⟩ := Option.map_eq_some_iff.mp h
    obtain ⟨h1, h2⟩ := zipOk_of_zipOpt hds ih
    simp only [inh, h1, h2, ne_eq, not_true_eq_false, if_false]
  -- pair
  | case15 fuel a b x y k w hy hx ihx ihy =>
    cases h
    simp only [inh, zipOk, ihx _ hx, ihy _ hy]
    rfl
  -- record
  | case18 fuel n args vs fs hsh ih =>
    obtain ⟨ds, hds, rfl⟩ := Option.map_eq_some_iff.mp h
    obtain ⟨h1, h2⟩ := zipOk_of_zipOpt hds ih
    simp only [inh, hsh, h1, h2, ne_eq, not_true_eq_false, if_false]
  -- variants
  | case21 fuel n args pos vs cs hsh i fs hc ih =>
    obtain ⟨ds, hds, rfl⟩ := Option.map_eq_some_iff.mp h
    obtain ⟨h1, h2⟩ := zipOk_of_zipOpt hds ih
    obtain ⟨dt, hdt, hmap⟩ := adtShape_variants hsh
    have hnd : (cs.map (·.1)).Nodup := hmap ▸ hw dt hdt
    simp only [inh, hsh]
    rw [ctorLoop_at .mismatch _ ds hnd hc, h1, if_neg (Decidable.not_not.mpr h2)]
end AikenVerif.Blueprint
