import AikenVerif.Lemmas.FlatConst
/-!
M-FLAT round trips: constant values, binders, terms; and what Props/C08 assumes (`wfC`, `wfT`: what the format can
carry; `CodecLaw`, `LawfulFlatBinder`: laws of the `Data` codec and the binder form; `need`: the fuel).
-/
namespace AikenVerif.Flat
open AikenVerif.Gen (Builtin)
open AikenVerif.Gen.FlatTags

mutual
  /-- what the format can carry of a constant: list elements and pair components
  have the declared type; `Data` payloads are ones the codec is known to read back -/
  def wfC (okD : Data → Bool) : Const → Bool
    | .list t xs => wfCs okD t xs
    | .pair a b x y => decide (x.ty = a) && decide (y.ty = b) && wfC okD x && wfC okD y
    | .data d => okD d
    | .integer _ => true | .bytestring _ => true | .string _ => true | .unit => true
    | .bool _ => true | .g1 _ => true | .g2 _ => true | .ml _ => true
  def wfCs (okD : Data → Bool) (t : Ty) : List Const → Bool
    | [] => true
    | x :: xs => decide (x.ty = t) && wfC okD x && wfCs okD t xs
end

/-- the codec reads back the `Data` values accepted by `okD` -/
structure CodecLaw (cd : DataCodec) (okD : Data → Bool) : Prop where
  rt : ∀ d, okD d = true → cd.dec (cd.enc d) = some d

def isBytesData : Data → Bool
  | .bytes _ => true
  | _ => false

theorem opaque_law : CodecLaw DataCodec.opaque isBytesData where
  rt d h := by cases d <;> simp_all [isBytesData, DataCodec.opaque]

theorem valListE_eq (cd : DataCodec) : ∀ xs : List Const, valListE cd xs = listE (valE cd) xs
  | [] => rfl
  | x :: xs => by rw [valListE, listE, valListE_eq cd xs]

theorem encodableC_topTy (c : Const) (h : encodableC c = true) : topTy c.ty = true := by
  cases c <;> first | rfl | cases h

section
variable (cd : DataCodec) (m : Mode) (okD : Data → Bool) (law : CodecLaw cd okD)
include law

mutual
  /-- `decode_constant_value` against `encode_constant_value` -/
  theorem rt_val : ∀ (c : Const), encodableC c = true → wfC okD c = true →
      RT (valE cd c) (decVal cd m c.ty) c
    | .integer i, _, _ => RT.bind_pure (rt_bigInt i) rfl
    | .bytestring b, _, _ => RT.bind_pure (rt_bytes b) rfl
    | .string s, _, _ =>
      RT.bind_pure (rt_utf8 (String.ofList s)) (congrArg (fun l => Dec.pure (Const.string l)) String.toList_ofList)
    | .unit, _, _ => RT.pure Const.unit
    | .bool b, _, _ => RT.bind_pure (rt_bool m b) rfl
    | .data d, _, hw => by
      rw [valE, Const.ty, decVal]
      exact RT.bind_pure (rt_bytes (cd.enc d)) (by rw [law.rt d hw])
    | .pair a b x y, he, hw => by
      simp only [encodableC, Bool.and_eq_true] at he
      simp only [wfC, Bool.and_eq_true, decide_eq_true_eq] at hw
      obtain ⟨⟨⟨rfl, rfl⟩, hwx⟩, hwy⟩ := hw
      exact RT.bind (rt_val x he.1 hwx) (RT.bind_pure (rt_val y he.2 hwy) rfl)
    | .list t xs, he, hw => by
      have hitems := rt_vals t xs he hw
      rw [valE, valListE_eq, Const.ty, decVal]
      intro n rest  -- given twice, as in `rt_tagList`
      exact RT.bind_pure (f := fun xs => Dec.pure (Const.list t xs)) (rt_list_bits hitems n rest) rfl n rest
    | .g1 _, he, _ | .g2 _, he, _ | .ml _, he, _ => by cases he
  theorem rt_vals : ∀ (t : Ty) (xs : List Const), encodableCs xs = true → wfCs okD t xs = true →
      ∀ x ∈ xs, RT (valE cd x) (decVal cd m t) x
    | _, [], _, _ => by intro x hx; cases hx
    | t, y :: ys, he, hw => by
      simp only [encodableCs, Bool.and_eq_true] at he
      simp only [wfCs, Bool.and_eq_true, decide_eq_true_eq] at hw
      intro x hx
      rcases List.mem_cons.mp hx with h | hx
      · exact h ▸ hw.1.1 ▸ rt_val y he.1 hw.1.2
      · exact rt_vals t ys he.2 hw.2 x hx
end

/-- `impl Decode for Constant` against `impl Encode for Constant` -/
theorem rt_const (c : Const) (he : encodableC c = true) (hw : wfC okD c = true) :
    RT (constE cd c) (decConst cd m) c := by
  refine RT.bind (rt_tagList (constTags c.ty) (constTags_lt c.ty)) ?_
  rw [decConstTy_constTags c.ty (encodableC_topTy c he)]
  exact rt_val cd m okD law c he hw

end

/-- the three binder forms read back what they write, for in-range fields -/
class LawfulFlatBinder (β : Type) [FlatBinder β] : Prop where
  rt_var : ∀ (m : Mode) (x : β), FlatBinder.wfVar x = true → RT (FlatBinder.varE x) (FlatBinder.decVar m) x
  rt_binder : ∀ (m : Mode) (x : β), FlatBinder.wfBinder x = true →
    RT (FlatBinder.binderE x) (FlatBinder.decBinder m) x

instance : LawfulFlatBinder DeBruijn where
  rt_var m x h := rt_word m x (of_decide_eq_true h)
  rt_binder m x h := by
    have : x = 0 := by simpa [FlatBinder.wfBinder] using h
    subst this
    exact RT.pure 0

theorem rt_namedDeBruijn (m : Mode) (x : NamedDeBruijn) (h : x.index < 2 ^ 64) :
    RT (namedDeBruijnE x) (decNamedDeBruijn m) x :=
  RT.bind (rt_utf8 x.text) (RT.bind_pure (rt_word m x.index h) rfl)

instance : LawfulFlatBinder NamedDeBruijn where
  rt_var m x h := rt_namedDeBruijn m x (of_decide_eq_true h)
  rt_binder m x h := rt_namedDeBruijn m x (of_decide_eq_true h)

theorem rt_name (m : Mode) (x : Name) (h : fitsIsize x.unique = true) : RT (nameE x) (decName m) x :=
  RT.bind (rt_utf8 x.text) (RT.bind_pure (rt_int64 m x.unique h) rfl)

instance : LawfulFlatBinder Name where
  rt_var m x h := rt_name m x h
  rt_binder m x h := rt_name m x h

theorem termEncTag_lt (c : TermCtor) : termEncTag c < 2 ^ termTagWidth := by cases c <;> decide

theorem termCtorOfTag_enc (c : TermCtor) : termCtorOfTag (termEncTag c) = some c := by cases c <;> rfl

@[simp] theorem termTagE_length (c : TermCtor) (n : Nat) : (termTagE c n).length = 4 := natBits_length _ _

theorem RT.tag {α : Type} (c : TermCtor) {e : Enc} {k : Nat → Dec α} {v : α} (h : RT e (k (termEncTag c)) v) :
    RT (termTagE c ⊕ e) ((decBits termTagWidth).bind k) v :=
  RT.bind (rt_bits _ _ (termEncTag_lt c)) h

/-- `DefaultFunction`: `try_from` inverts `as u8` -/
theorem builtin_tag_spec (b : Builtin) : Builtin.ofTag b.tag = some b ∧ b.tag < 2 ^ builtinTagWidth := by
  cases b <;> decide +kernel

theorem rt_builtin (b : Builtin) : RT (builtinE b) decBuiltin b :=
  RT.bind_pure (rt_bits builtinTagWidth b.tag (builtin_tag_spec b).2) (by rw [(builtin_tag_spec b).1])

section
variable {β : Type} [FlatBinder β]

mutual
  /-- machine-width fields in range, binders the format can carry, constants well-typed -/
  def wfT (okD : Data → Bool) : Term β → Bool
    | .var x => FlatBinder.wfVar x
    | .lam x b => FlatBinder.wfBinder x && wfT okD b
    | .app f a => wfT okD f && wfT okD a
    | .delay t => wfT okD t
    | .force t => wfT okD t
    | .const c => wfC okD c
    | .constr k fs => decide (k < 2 ^ 64) && wfTs okD fs
    | .case s bs => wfT okD s && wfTs okD bs
    | .error => true
    | .builtin _ => true
  def wfTs (okD : Data → Bool) : List (Term β) → Bool
    | [] => true
    | t :: ts => wfT okD t && wfTs okD ts
end

mutual
  /-- decoder fuel a term needs: one unit per node and per list item -/
  def need : Term β → Nat
    | .var _ => 1 | .error => 1 | .builtin _ => 1 | .const _ => 1
    | .lam _ b => need b + 1
    | .delay t => need t + 1
    | .force t => need t + 1
    | .app f a => need f + need a + 1
    | .constr _ fs => needs fs + 1
    | .case s bs => need s + needs bs + 1
  def needs : List (Term β) → Nat
    | [] => 1
    | t :: ts => need t + needs ts + 1
end

theorem length_lt_needs : ∀ ts : List (Term β), ts.length < needs ts
  | [] => Nat.one_pos
  | t :: ts => by have := length_lt_needs ts; simp only [needs, List.length_cons]; omega

theorem termListE_eq (cd : DataCodec) : ∀ ts : List (Term β), termListE cd ts = listE (termE cd) ts
  | [] => rfl
  | t :: ts => by rw [termListE, listE, termListE_eq cd ts]

mutual
  /-- every node writes its 4-bit tag, every list item its 1-bit marker -/
  theorem need_le_length (cd : DataCodec) : ∀ (t : Term β) (n : Nat), need t ≤ (termE cd t n).length
    | .var _, n | .builtin _, n | .const _, n => by
      simp only [need, termE, Enc.seq_length, termTagE_length]; omega
    | .error, n => by simp only [need, termE, termTagE_length]; omega
    | .lam x b, n => by
      have := need_le_length cd b (n + 4 + (FlatBinder.binderE x (n + 4)).length)
      simp only [need, termE, Enc.seq_length, termTagE_length]; omega
    | .delay t, n | .force t, n => by
      have := need_le_length cd t (n + 4)
      simp only [need, termE, Enc.seq_length, termTagE_length]; omega
    | .app f a, n => by
      have h1 := need_le_length cd f (n + 4)
      have h2 := need_le_length cd a (n + 4 + (termE cd f (n + 4)).length)
      simp only [need, termE, Enc.seq_length, termTagE_length]; omega
    | .constr k fs, n => by
      have h := needs_le_length cd fs (n + 4 + (wordBits k).length)
      simp only [need, termE, Enc.seq_length, termTagE_length, Enc.lit_apply]; omega
    | .case s bs, n => by
      have h1 := need_le_length cd s (n + 4)
      have h2 := needs_le_length cd bs (n + 4 + (termE cd s (n + 4)).length)
      simp only [need, termE, Enc.seq_length, termTagE_length]; omega
  theorem needs_le_length (cd : DataCodec) : ∀ (ts : List (Term β)) (n : Nat), needs ts ≤ (termListE cd ts n).length
    | [], n => Nat.le_refl 1
    | t :: ts, n => by
      have h1 := need_le_length cd t (n + 1)
      have h2 := needs_le_length cd ts (n + 1 + (termE cd t (n + 1)).length)
      simp only [needs, termListE, Enc.seq_length, Enc.lit_apply, List.length_singleton]; omega
end

variable [LawfulFlatBinder β]
variable (cd : DataCodec) (m : Mode) (okD : Data → Bool) (law : CodecLaw cd okD)
include law

mutual
  /-- `Term::decode_debug` against `Term::encode` -/
  theorem rt_term : ∀ (t : Term β) (f : Nat), need t ≤ f → encodableT t = true → wfT okD t = true →
      RT (termE cd t) (decTerm cd m f) t
    | t, 0, hn, _, _ => by cases t <;> simp [need] at hn
    | .var x, f + 1, _, _, hw => by
      rw [termE, decTerm]
      exact RT.tag .var (RT.bind_pure (LawfulFlatBinder.rt_var m x hw) rfl)
    | .delay t, f + 1, hn, he, hw | .force t, f + 1, hn, he, hw => by
      have it := rt_term t f (Nat.le_of_succ_le_succ hn) he hw
      rw [termE, decTerm]
      exact RT.tag _ (RT.bind_pure it rfl)
    | .lam x b, f + 1, hn, he, hw => by
      simp only [wfT, Bool.and_eq_true] at hw
      have ib := rt_term b f (Nat.le_of_succ_le_succ hn) he hw.2
      rw [termE, decTerm]
      exact RT.tag .lambda (RT.bind (LawfulFlatBinder.rt_binder m x hw.1) (RT.bind_pure ib rfl))
    | .app g a, f + 1, hn, he, hw => by
      simp only [wfT, Bool.and_eq_true] at hw
      simp only [encodableT, Bool.and_eq_true] at he
      simp only [need] at hn
      have ig := rt_term g f (by omega) he.1 hw.1
      have ia := rt_term a f (by omega) he.2 hw.2
      rw [termE, decTerm]
      exact RT.tag .apply (RT.bind ig (RT.bind_pure ia rfl))
    | .const c, f + 1, _, he, hw => by
      rw [termE, decTerm]
      exact RT.tag .constant (RT.bind_pure (rt_const cd m okD law c he hw) rfl)
    | .error, f + 1, _, _, _ => by
      rw [termE, decTerm]
      -- the tag is the whole encoding: there is no payload for `RT.tag` to sequence
      exact RT.bind_pure (rt_bits _ _ (termEncTag_lt .error)) rfl
    | .builtin b, f + 1, _, _, _ => by
      rw [termE, decTerm]
      exact RT.tag .builtin (RT.bind_pure (rt_builtin b) rfl)
    | .constr k fs, f + 1, hn, he, hw => by
      simp only [wfT, Bool.and_eq_true, decide_eq_true_eq] at hw
      simp only [need] at hn
      have ifs := rt_terms fs f (by omega) he hw.2
      have hl := length_lt_needs fs
      rw [termE, decTerm, termListE_eq]
      exact RT.tag .constr (RT.bind (rt_word m k hw.1) (RT.bind_pure (rt_list _ _ fs f (by omega) ifs) rfl))
    | .case s bs, f + 1, hn, he, hw => by
      simp only [wfT, Bool.and_eq_true] at hw
      simp only [encodableT, Bool.and_eq_true] at he
      simp only [need] at hn
      have is_ := rt_term s f (by omega) he.1 hw.1
      have ibs := rt_terms bs f (by omega) he.2 hw.2
      have hl := length_lt_needs bs
      rw [termE, decTerm, termListE_eq]
      exact RT.tag .case (RT.bind is_ (RT.bind_pure (rt_list _ _ bs f (by omega) ibs) rfl))
  theorem rt_terms : ∀ (ts : List (Term β)) (f : Nat), needs ts ≤ f → encodableTs ts = true →
      wfTs okD ts = true → ∀ t ∈ ts, RT (termE cd t) (decTerm cd m f) t
    | [], _, _, _, _ => by intro t ht; cases ht
    | u :: us, f, hn, he, hw => by
      simp only [encodableTs, Bool.and_eq_true] at he
      simp only [wfTs, Bool.and_eq_true] at hw
      simp only [needs] at hn
      intro t ht
      rcases List.mem_cons.mp ht with h | ht
      · exact h ▸ rt_term u f (by omega) he.1 hw.1
      · exact rt_terms us f (by omega) he.2 hw.2 t ht
end

end

end AikenVerif.Flat
