import AikenVerif.Model.Builtin
/-! byte-string comparison = lexicographic order -/
namespace AikenVerif

theorem bytes_lt_iff_lex : ∀ a b : Bytes, Bytes'.lt a b = true ↔ a < b
  | [], [] => by simp [Bytes'.lt]
  | [], _ :: _ => by simp [Bytes'.lt]
  | _ :: _, [] => by simp [Bytes'.lt]
  | x :: xs, y :: ys => by
    have ih := bytes_lt_iff_lex xs ys
    simp only [Bytes'.lt, List.cons_lt_cons_iff]
    by_cases h1 : x < y
    · simp [h1]
    · by_cases h2 : y < x
      · have hne : x ≠ y := by intro h; subst h; exact h1 h2
        simp [h1, h2, hne]
      · have heq : x = y := UInt8.le_antisymm (UInt8.not_lt.mp h2) (UInt8.not_lt.mp h1)
        subst heq
        simp [h1, ih]

theorem bytes_le_iff_lex (a b : Bytes) : Bytes'.le a b = true ↔ a ≤ b := by
  unfold Bytes'.le
  rw [Bool.not_eq_true', ← Bool.not_eq_true, bytes_lt_iff_lex]
  exact List.not_lt.symm

end AikenVerif
