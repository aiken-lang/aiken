import AikenVerif.Model.Cbor
/-!
The byte-string wrapper of scripts (`wrapBytes` / `unwrapBytes`, C08) and its big-endian length field.
(The builtin model has its own big-endian reader, `Bytes'.toNatBE`: `Lemmas/BytesNat.lean`.)
-/
namespace AikenVerif.Cbor

theorem beBytes_length (k v : Nat) : (beBytes k v).length = k := by
  induction k with
  | zero => rfl
  | succ k ih => simp [beBytes, ih]

theorem beNat_beBytes : ∀ k v : Nat, beNat (beBytes k v) = v % 256 ^ k
  | 0, v => (Nat.mod_one v).symm
  | k + 1, v => by
    rw [beBytes, beNat, beBytes_length, beNat_beBytes k v, UInt8.toNat_ofNat',
      Nat.mod_eq_of_lt (Nat.mod_lt _ (by decide)), Nat.pow_succ, Nat.mod_mul, Nat.add_comm, Nat.mul_comm]

/-- `Decoder::bytes()` on major type 2; `k = 0`: the additional information is itself the length -/
theorem unwrapBytes_cons (h : UInt8) (rest : Bytes) (k : Nat) (hmt : h.toNat / 32 = 2)
    (hk : (if h.toNat % 32 < 24 then some 0 else if h.toNat % 32 = 24 then some 1
      else if h.toNat % 32 = 25 then some 2 else if h.toNat % 32 = 26 then some 4
      else if h.toNat % 32 = 27 then some 8 else none) = some k) :
    unwrapBytes (h :: rest) =
      if rest.length < k then none
      else if (rest.drop k).length < (if h.toNat % 32 < 24 then h.toNat % 32 else beNat (rest.take k)) then none
      else some ((rest.drop k).take (if h.toNat % 32 < 24 then h.toNat % 32 else beNat (rest.take k))) := by
  simp only [unwrapBytes, hmt, ne_eq, not_true_eq_false, if_false, hk]

/-- heads `0x58 … 0x5b` -/
theorem unwrap_wide (h : UInt8) (k : Nat) (b extra : Bytes) (hmt : h.toNat / 32 = 2) (h24 : ¬ h.toNat % 32 < 24)
    (hk : (if h.toNat % 32 = 24 then some 1 else if h.toNat % 32 = 25 then some 2
      else if h.toNat % 32 = 26 then some 4 else if h.toNat % 32 = 27 then some 8 else none) = some k)
    (hlen : b.length < 2 ^ (8 * k)) :
    unwrapBytes (h :: (beBytes k b.length ++ (b ++ extra))) = some b := by
  have hfield := beBytes_length k b.length
  have hval : beNat (beBytes k b.length) = b.length := by
    rw [beNat_beBytes]
    exact Nat.mod_eq_of_lt (by rwa [Nat.pow_mul] at hlen)
  rw [unwrapBytes_cons _ _ k hmt (by rw [if_neg h24]; exact hk), if_neg h24, List.take_left' hfield,
    List.drop_left' hfield, hval]
  simp [hfield]

end AikenVerif.Cbor
