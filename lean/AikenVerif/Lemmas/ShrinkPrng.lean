import AikenVerif.Model.Shrink
/-!
The PRNG protocol: a replayed PRNG hands out the recorded choices in order, a seeded PRNG records
what it hands out, and therefore replaying the recorded choices regenerates the value.
-/
namespace AikenVerif.Shrink

variable {α : Type}

theorem draw_replayed {S : SeedSys} (pre : Choices) (b : UInt8) (rest : Choices) :
    Prng.draw (S := S) (.replayed (rest.length + 1) (pre ++ b :: rest).reverse) =
      some (b, .replayed rest.length (pre ++ b :: rest).reverse) := by
  have h : (pre ++ b :: rest).reverse[rest.length]? = some b := by
    rw [List.reverse_append, List.reverse_cons, List.append_assoc,
      List.getElem?_append_right (by rw [List.length_reverse]; exact Nat.le_refl _),
      List.length_reverse, Nat.sub_self]
    rfl
  rw [Prng.draw, if_pos (Nat.le_add_left ..), Nat.add_sub_cancel, h]

theorem sample_replayed {S : SeedSys} : ∀ (g : Gen α) (pre rest : Choices),
    (g.sample (S := S) (.replayed rest.length (pre ++ rest).reverse)).map (·.2) = g.replay rest
  | .done none, _, _ => rfl
  | .done (some a), _, _ => rfl
  | .read k, pre, [] => rfl
  | .read k, pre, b :: rest' => by
    have := sample_replayed (S := S) (k b) (pre ++ [b]) rest'
    rw [List.append_assoc] at this
    rw [Gen.sample, List.length_cons, draw_replayed, Gen.replay]
    exact this

theorem sample_fromChoices {S : SeedSys} (g : Gen α) (cs : Choices) :
    (g.sample (S := S) (Prng.fromChoices cs)).map (·.2) = g.replay cs := by
  have := sample_replayed (S := S) g [] cs
  simpa [Prng.fromChoices] using this

theorem sample_seeded {S : SeedSys} : ∀ (g : Gen α) (seed : S.σ) (acc : Choices) (p' : Prng S) (a : α),
    g.sample (.seeded seed acc) = some (p', a) →
      ∃ drawn seed', p' = .seeded seed' (drawn.reverse ++ acc) ∧ g.replay drawn = some a
  | .done none, _, _, _, _, h => by cases h
  | .done (some a₀), seed, acc, p', a, h => by
    cases h
    exact ⟨[], seed, rfl, rfl⟩
  | .read k, seed, acc, p', a, h => by
    have ⟨drawn, seed', h1, h2⟩ :=
      sample_seeded (k (S.byte seed)) (S.next seed) (S.byte seed :: acc) p' a h
    exact ⟨S.byte seed :: drawn, seed', by rw [h1, List.reverse_cons, List.append_assoc]; rfl, h2⟩

theorem replay_append : ∀ (g : Gen α) (p s : Choices) (a : α),
    g.replay p = some a → g.replay (p ++ s) = some a
  | .done r, _, _, _, h => by simpa [Gen.replay] using h
  | .read k, [], _, _, h => by simp [Gen.replay] at h
  | .read k, b :: p, s, a, h => by
    simp only [Gen.replay, List.cons_append] at *
    exact replay_append (k b) p s a h

/-- the closure of `run_once`, seen through `replay` -/
theorem runOf_eq (S : SeedSys) (g : Gen α) (keep : α → Bool) (cs : Choices) :
    runOf S g keep cs =
      match g.replay cs with
      | none => .invalid
      | some a => if keep a then .keep a else .ignore := by
  unfold runOf
  rw [← sample_fromChoices (S := S) g cs]
  cases g.sample (S := S) (Prng.fromChoices cs) with
  | none => rfl
  | some pa => rfl

theorem runOf_keep (S : SeedSys) (g : Gen α) (keep : α → Bool) (cs : Choices) (a : α) :
    runOf S g keep cs = .keep a ↔ (g.replay cs = some a ∧ keep a = true) := by
  rw [runOf_eq]
  cases h : g.replay cs with
  | none => simp
  | some b =>
    simp only
    by_cases hk : keep b = true
    · simp only [hk, if_true, Status.keep.injEq, Option.some.injEq]
      constructor
      · intro h; subst h; exact ⟨rfl, hk⟩
      · intro h; exact h.1
    · simp only [hk, Option.some.injEq]
      constructor
      · intro h; simp at h
      · intro h; rw [h.1] at hk; exact absurd h.2 hk

theorem runNTimes_spec (otf : OnTestFailure) : ∀ fs : List Bool,
    isSuccess otf (runNTimes otf fs).1 = verdictSpec otf fs
  | [] => by cases otf <;> rfl
  | f :: fs => by
    have ih := runNTimes_spec otf fs
    cases otf <;> cases f <;>
      simp_all [runNTimes, keepCounterexample, isSuccess, verdictSpec]

theorem runNTimes_iterations (otf : OnTestFailure) : ∀ fs : List Bool,
    (runNTimes otf fs).2 ≤ fs.length ∧
    ((runNTimes otf fs).1 = false → (runNTimes otf fs).2 = fs.length)
  | [] => by simp [runNTimes]
  | f :: fs => by
    have ih := runNTimes_iterations otf fs
    unfold runNTimes
    split
    · simp
    · simp only [List.length_cons]
      exact ⟨by omega, fun h => by rw [ih.2 h]⟩

end AikenVerif.Shrink
