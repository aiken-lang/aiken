import AikenVerif.Lemmas.ShrinkLoops
/-!
`onePass`, the outer loop, `simplify`; the cache lemmas; the invariants carried along `Steps`.
-/
namespace AikenVerif.Shrink

variable {α : Type} (run : Choices → Status α)

theorem onePass_ok (F : Nat) (hF : 256 ≤ F) (s : CE α) (hF' : 2 * s.choices.length < F) :
    (onePass run F s).EndsIn (Steps run s) := by
  unfold onePass
  refine (deletePass_ok run F 8 (by decide) s (.refl s) hF').bind fun s h => ?_
  refine (deletePass_ok run F 4 (by decide) s h hF').bind fun s h => ?_
  refine (deletePass_ok run F 2 (by decide) s h hF').bind fun s h => ?_
  refine (deletePass_ok run F 1 (by decide) s h hF').bind fun s₁ h => ?_
  split
  · exact .ok h
  · rename_i hne
    -- from here on the length stays that of `s₁`, which is not empty
    have hlen := h.length_le
    have hne : s₁.choices.length ≠ 0 := fun h0 => hne (List.isEmpty_iff_length_eq_zero.mpr h0)
    have hlt : s₁.choices.length < F := by omega
    have hle := Nat.le_of_lt hlt
    refine Res.EndsIn.mono (P := LSteps run s₁) ?_ fun t ht => h.trans run ht.steps
    refine (zeroPass_ok run F 8 (by decide) s₁ (.refl run s₁) hlt).bind fun s h => ?_
    refine (zeroPass_ok run F 4 (by decide) s h hlt).bind fun s h => ?_
    refine (zeroPass_ok run F 2 (by decide) s h hlt).bind fun s h => ?_
    refine (minPass_ok run F hF s h hne hle).bind fun s h => ?_
    refine (sortPass_ok run F 8 (by decide) s h hne hle).bind fun s h => ?_
    refine (sortPass_ok run F 4 (by decide) s h hne hle).bind fun s h => ?_
    refine (sortPass_ok run F 2 (by decide) s h hne hle).bind fun s h => ?_
    refine (pairPass_ok run F 2 hF (by decide) s h hne hle).bind fun s h => ?_
    exact pairPass_ok run F 1 hF (by decide) s h hne hle

/-- measure of the outer loop: a pass that changes the choices strictly lowers their rank -/
theorem simplifyLoop_ok (F : Nat) (hF : 256 ≤ F) {s₀ : CE α} (fuel : Nat) (s : CE α)
    (hfuel : shortlexRank s.choices < fuel) (hF' : 2 * s₀.choices.length < F)
    (h₀ : Steps run s₀ s) : (simplifyLoop run F fuel s).EndsIn (Steps run s₀) := by
  have hlen := h₀.length_le
  fun_induction simplifyLoop run F fuel s with
  | case1 => omega
  | case2 fuel s s₁ hp _ => exact .ok (h₀.trans run ((onePass_ok run F hF s (by omega)).of_eq hp))
  | case3 fuel s s₁ hp hne ih =>
    have h₁ := (onePass_ok run F hF s (by omega)).of_eq hp
    have hlt := shortlexRank_lt (h₁.le run) fun h => hne h.symm
    have hlen₁ := h₁.length_le
    exact ih (by omega) (h₀.trans run h₁) (by omega)
  | case4 fuel s hp =>
    obtain ⟨s₁, e, _⟩ := onePass_ok run F hF s (by omega)
    exact (hp s₁ e).elim

theorem simplify_ok (F : Nat) (s : CE α) (hF : fuelBound s.choices ≤ F) :
    (simplify run F s).EndsIn (Steps run s) := by
  have h : 256 ≤ F ∧ shortlexRank s.choices < F ∧ 2 * s.choices.length < F := by
    unfold fuelBound at hF
    omega
  exact simplifyLoop_ok run F h.1 F s h.2.1 h.2.2 (.refl s)

-- the cache holds only true answers of `run`
def DbSound (c : Cache α) : Prop := ∀ k st, (k, st) ∈ c.db → st = run k

/-- what the cache's longest-common-prefix rule relies on: a sequence on which the fuzzer did not
run out of (or reject) choices gives the same outcome however it is extended -/
def PrefixStable : Prop := ∀ p s : Choices, (run p).isInvalid = false → run (p ++ s) = run p

theorem longestPrefix_mem (db : List (Choices × Status α)) (c k : Choices) (st : Status α)
    (h : longestPrefix db c = some (k, st)) : (k, st) ∈ db ∧ k.isPrefixOf c = true := by
  fun_induction longestPrefix db c with
  | case1 => cases h
  | case2 k₀ s₀ rest c k' s' hrec hc ih =>
    cases h
    exact ⟨List.mem_cons_self .., (Bool.and_eq_true_iff.mp hc).1⟩
  | case3 k₀ s₀ rest c k' s' hrec hc ih =>
    cases h
    exact ⟨List.mem_cons_of_mem _ (ih hrec).1, (ih hrec).2⟩
  | case4 k₀ s₀ rest c hrec hc ih =>
    cases h
    exact ⟨List.mem_cons_self .., hc⟩
  | case5 => cases h

theorem miss_mem (c : Cache α) (x k : Choices) (st : Status α)
    (h : (k, st) ∈ (c.miss run x).2.db) : (k, st) ∈ c.db ∨ (k = x ∧ st = run x) := by
  unfold Cache.miss at h
  simp only [List.mem_cons, Prod.mk.injEq, List.mem_filter] at h
  rcases h with h | ⟨h, _⟩
  · exact Or.inr h
  · left
    split at h
    · exact h
    · exact (List.mem_filter.mp h).1

theorem get_cases (c : Cache α) (x : Choices) :
    (∃ p st, (p, st) ∈ c.db ∧ p.isPrefixOf x = true ∧ (st.isInvalid = false ∨ p = x) ∧
      c.get run x = (st, c)) ∨
    c.get run x = c.miss run x := by
  unfold Cache.get
  split
  · rename_i p st hlp
    have ⟨hmem, hpre⟩ := longestPrefix_mem c.db x p st hlp
    split
    · rename_i hcond
      rw [Bool.or_eq_true, Bool.not_eq_true', beq_iff_eq] at hcond
      exact .inl ⟨p, st, hmem, hpre, hcond, rfl⟩
    · exact .inr rfl
  · exact .inr rfl

theorem get_mem (c : Cache α) (x k : Choices) (st : Status α)
    (h : (k, st) ∈ (c.get run x).2.db) :
    (k, st) ∈ c.db ∨ (k = x ∧ st = run x ∧ (c.get run x).1 = run x) := by
  rcases get_cases run c x with ⟨_, _, _, _, _, e⟩ | e <;> rw [e] at h ⊢
  · exact .inl h
  · exact (miss_mem run c x k st h).imp_right fun h => ⟨h.1, h.2, rfl⟩

theorem get_sound (c : Cache α) (x : Choices) (hs : DbSound run c) :
    DbSound run (c.get run x).2 := by
  intro k st h
  rcases get_mem run c x k st h with h | ⟨h1, h2, _⟩
  · exact hs k st h
  · rw [h2, h1]

/-- `cache_transparent`: with a prefix-stable `run`, `get` answers what `run` answers -/
theorem get_fst_of_stable (hps : PrefixStable run) (c : Cache α) (x : Choices)
    (hs : DbSound run c) : (c.get run x).1 = run x := by
  rcases get_cases run c x with ⟨p, st, hmem, hpre, hcond, e⟩ | e <;> rw [e]
  · have hst := hs p st hmem
    rcases hcond with hcond | rfl
    · obtain ⟨t, rfl⟩ := List.isPrefixOf_iff_prefix.mp hpre
      rw [hps p t (hst ▸ hcond)]
      exact hst
    · exact hst
  · rfl

/-- without prefix stability: a `Keep` answer for a query no longer than every stored `Keep` key
is still `run`'s answer -/
theorem get_keep_of_long (c : Cache α) (x : Choices) (n : Nat) (hs : DbSound run c)
    (hlong : ∀ k v, (k, Status.keep v) ∈ c.db → n ≤ k.length) (hx : x.length ≤ n) (v : α)
    (h : (c.get run x).1 = .keep v) : run x = .keep v := by
  rcases get_cases run c x with ⟨p, st, hmem, hpre, _, e⟩ | e <;> rw [e] at h
  · cases h
    have hpx : p = x :=
      (List.isPrefixOf_iff_prefix.mp hpre).eq_of_length_le (Nat.le_trans hx (hlong p v hmem))
    exact hpx ▸ (hs p _ hmem).symm
  · exact h

/-- the counterexample is real: `run` on its choices keeps its value (needs `PrefixStable`, as the cache
may answer from a prefix) -/
def Real (s : CE α) : Prop := DbSound run s.cache ∧ run s.choices = .keep s.value

theorem consider_real (hps : PrefixStable run) (s : CE α) (c : Choices) (h : Real run s) :
    Real run (consider run s c).2 := by
  have hdb := get_sound run s.cache c h.1
  rcases consider_cases run s c with ⟨_, e⟩ | ⟨v, hv, e⟩ | ⟨e, _⟩ <;> rw [e]
  · exact h
  · exact ⟨hdb, (get_fst_of_stable run hps s.cache c h.1).symm.trans hv⟩
  · exact ⟨hdb, h.2⟩

theorem Steps.real (hps : PrefixStable run) {s t : CE α} (h : Steps run s t) (hr : Real run s) :
    Real run t :=
  h.preserves run (fun s c _ => consider_real run hps s c) hr

/-- the stronger invariant that needs no hypothesis on `run`: every stored `Keep` key is at least
as long as the current choices (because a `Keep` answer is always accepted by `simplify`) -/
def KeepLong (s : CE α) : Prop :=
  ∀ k v, (k, Status.keep v) ∈ s.cache.db → s.choices.length ≤ k.length

/-- `Real` without `PrefixStable`: instead, no cached `keep` is shorter than the current choices, so the
prefix rule never answers `keep` for a candidate that is no longer -/
def Real' (s : CE α) : Prop := DbSound run s.cache ∧ KeepLong s ∧ run s.choices = .keep s.value

theorem consider_real' (s : CE α) (c : Choices) (hc : c.length ≤ s.choices.length)
    (h : Real' run s) : Real' run (consider run s c).2 := by
  have hdb := get_sound run s.cache c h.1
  have hmem := get_mem run s.cache c
  rcases consider_cases run s c with ⟨_, e⟩ | ⟨v, hv, e⟩ | ⟨e, hlong⟩ <;> rw [e]
  · exact h
  · refine ⟨hdb, fun k v' hk => ?_, get_keep_of_long run s.cache c _ h.1 h.2.1 hc v hv⟩
    rcases hmem k _ hk with hk | ⟨rfl, _⟩
    · exact Nat.le_trans hc (h.2.1 k v' hk)
    · exact Nat.le_refl _
  · refine ⟨hdb, fun k v' hk => ?_, h.2.2⟩
    rcases hmem k _ hk with hk | ⟨_, hst, hg⟩
    · exact h.2.1 k v' hk
    · exact absurd (hlong v' (hg.trans hst.symm)) (Nat.not_lt.mpr hc)

theorem Steps.real' {s t : CE α} (h : Steps run s t) (hr : Real' run s) : Real' run t :=
  h.preserves run (fun s c hc => consider_real' run s c (shortlexLe_length hc)) hr

end AikenVerif.Shrink
