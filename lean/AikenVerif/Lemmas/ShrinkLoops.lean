import AikenVerif.Lemmas.ShrinkSteps
/-!
The passes of `simplify` (five loops: swapping and redistributing pairs share `pairLoop`): each ends
with `ok` (never `outOfFuel` within the stated fuel, never `panic`) and keeps "reached from `s₀` by
`Steps`" — for the passes after deletion, by `LSteps`.
-/
namespace AikenVerif.Shrink

variable {α : Type} (run : Choices → Status α)

theorem deleteCand_length (cs : Choices) (i k : Nat) (hi : i < cs.length) (hk : 1 ≤ k) :
    (deleteCand cs i k).length < cs.length ∧ i ≤ (deleteCand cs i k).length := by
  unfold deleteCand
  split
  · rw [List.length_append, List.length_take, List.length_drop]; omega
  · rw [List.length_append, List.length_take, List.length_nil]; omega

theorem deleteCand_step (k : Nat) (hk : 1 ≤ k) {s s₁ : CE α} {i : Nat} {b : Bool} {cand : Choices}
    (hi : ¬ i ≥ s.choices.length) (hc : consider run s cand = (b, s₁))
    (hcand : cand = deleteCand s.choices i k) :
    Steps run s s₁ ∧ cand.length < s.choices.length ∧ i ≤ cand.length := by
  subst hcand
  have hl := deleteCand_length s.choices i k (Nat.not_le.mp hi) hk
  exact ⟨Steps.one' run (shortlexLe_of_shorter hl.1) hc, hl⟩

/-- measure: `|choices| + i`; an accepted candidate is strictly shorter, a rejected one lowers `i` -/
theorem deleteLoop_ok (k : Nat) (hk : 1 ≤ k) {s₀ : CE α} (fuel i : Nat) (s : CE α)
    (hfuel : s.choices.length + i < fuel) (h₀ : Steps run s₀ s) :
    (deleteLoop run k fuel i s).EndsIn (Steps run s₀) := by
  fun_induction deleteLoop run k fuel i s with
  | case1 => omega
  -- `i` past the end: stop at 0, else lower it
  | case2 => exact .ok h₀
  | case3 fuel i s _ _ ih => exact ih (by omega) h₀
  -- the candidate is accepted
  | case4 fuel i s hi cand s₁ hc ih =>
    obtain ⟨h₁, hl⟩ := deleteCand_step run k hk hi hc rfl
    exact ih (by rw [consider_true run hc]; omega) (h₀.trans run h₁)
  -- rejected, and `cand[i - 1]` would be missing: it is not, `i ≤ |cand|`
  | case5 fuel i s hi cand s₁ hc hpos hb =>
    obtain ⟨-, hl⟩ := deleteCand_step run k hk hi hc rfl
    rw [List.getElem?_eq_none_iff] at hb
    omega
  -- rejected; the retry with the previous choice decremented is accepted: shorter, `i` stays
  | case6 fuel i s hi cand s₁ hc hpos b hb hbpos s₂ hc₂ ih =>
    obtain ⟨h₁, hl⟩ := deleteCand_step run k hk hi hc rfl
    have h₂ := Steps.one' run
      (shortlexLe_of_shorter (by rw [consider_false run hc, List.length_set]; omega)) hc₂
    exact ih (by rw [consider_true run hc₂, List.length_set]; omega)
      ((h₀.trans run h₁).trans run h₂)
  -- the retry is rejected too
  | case7 fuel i s hi cand s₁ hc hpos b hb hbpos s₂ hc₂ ih =>
    obtain ⟨h₁, hl⟩ := deleteCand_step run k hk hi hc rfl
    have hch₁ := consider_false run hc
    have h₂ := Steps.one' run (shortlexLe_of_shorter (by rw [hch₁, List.length_set]; omega)) hc₂
    exact ih (by rw [consider_false run hc₂, hch₁]; omega) ((h₀.trans run h₁).trans run h₂)
  -- rejected, the previous choice is 0: no retry
  | case8 fuel i s hi cand s₁ hc hpos b hb hbpos ih =>
    obtain ⟨h₁, hl⟩ := deleteCand_step run k hk hi hc rfl
    exact ih (by rw [consider_false run hc]; omega) (h₀.trans run h₁)
  -- rejected at `i = 0`
  | case9 fuel i s hi cand s₁ hc hpos =>
    exact .ok (h₀.trans run (deleteCand_step run k hk hi hc rfl).1)

theorem deletePass_ok (F k : Nat) (hk : 1 ≤ k) {s₀ : CE α} (s : CE α) (h₀ : Steps run s₀ s)
    (hF : 2 * s₀.choices.length < F) : (deletePass run F k s).EndsIn (Steps run s₀) := by
  have := h₀.length_le
  unfold deletePass
  split
  · exact .ok h₀
  · exact deleteLoop_ok run k hk F _ s (by omega) h₀

theorem applyIvs_zero_lexLe : ∀ (ivs : List (Nat × UInt8)) (cs cs' : Choices),
    (∀ p ∈ ivs, p.2 = 0) → applyIvs cs ivs = some cs' → lexLe cs' cs = true
  | [], cs, cs', _, h => by cases h; exact lexLe_refl _
  | (i, v) :: rest, cs, cs', hz, h => by
    rw [applyIvs] at h
    by_cases hi : i ≥ cs.length
    · rw [if_pos hi] at h
      cases h
    · rw [if_neg hi] at h
      have hv : v = 0 := hz (i, v) (List.mem_cons_self ..)
      have h1 := applyIvs_zero_lexLe rest _ _ (fun p hp => hz p (List.mem_cons_of_mem _ hp)) h
      exact lexLe_trans h1
        (lexLe_set cs i v _ (List.getElem?_eq_getElem (Nat.not_le.mp hi)) (hv ▸ UInt8.zero_le))

theorem zero_lsteps {s s₁ : CE α} {b : Bool} {i k : Nat}
    (hr : replace run s (zeroIvs i k) = (b, s₁)) : LSteps run s s₁ :=
  replace_lsteps run hr fun _ h => applyIvs_zero_lexLe _ _ _ (fun p hp => by
    obtain ⟨_, _, rfl⟩ := List.mem_map.mp hp
    rfl) h

theorem zeroLoop_ok (k : Nat) (hk : 1 ≤ k) {s₀ : CE α} (fuel i : Nat) (s : CE α)
    (hfuel : i < fuel) (h₀ : LSteps run s₀ s) :
    (zeroLoop run k fuel i s).EndsIn (LSteps run s₀) := by
  fun_induction zeroLoop run k fuel i s with
  -- no fuel: `i < fuel`
  | case1 => omega
  -- the zeroed chunk is accepted / rejected: either way a length-keeping step, and `i` goes down
  | case2 fuel i s hik s₁ hr ih => exact ih (by omega) (h₀.trans run (zero_lsteps run hr))
  | case3 fuel i s hik s₁ hr ih => exact ih (by omega) (h₀.trans run (zero_lsteps run hr))
  | case4 => exact .ok h₀

theorem zeroPass_ok (F k : Nat) (hk : 1 ≤ k) {s₀ : CE α} (s : CE α) (h₀ : LSteps run s₀ s)
    (hF : s₀.choices.length < F) : (zeroPass run F k s).EndsIn (LSteps run s₀) :=
  zeroLoop_ok run k hk F _ s (h₀.length ▸ hF) h₀

theorem minimise_ok (F : Nat) (hF : 256 ≤ F) {s : CE α} {i : Nat} {hi : UInt8}
    (hget : s.choices[i]? = some hi) :
    (binarySearchReplace run (fun v => [(i, v)]) F 0 hi s).EndsIn (LSteps run s) :=
  binarySearchReplace_ok run (bsOk_single i) F hF hi s hi hget (Nat.le_refl _)
    fun _ h => (applyIvs_single hget UInt8.zero_le h).1

theorem minLoop_ok (F : Nat) (hF : 256 ≤ F) {s₀ : CE α} (fuel i : Nat) (s : CE α)
    (hfuel : i < fuel) (hi : i < s.choices.length) (h₀ : LSteps run s₀ s) :
    (minLoop run F fuel i s).EndsIn (LSteps run s₀) := by
  fun_induction minLoop run F fuel i s with
  -- no fuel: `i < fuel`
  | case1 => omega
  -- the read at `i` fails: it does not, `i < |choices|`
  | case2 fuel i s hnone =>
    rw [List.getElem?_eq_none_iff] at hnone
    omega
  -- the search ends with `ok` at `i = 0`: done
  | case3 fuel s v s₁ hget hb =>
    exact .ok (h₀.trans run ((minimise_ok run F hF hget).of_eq hb))
  -- the search ends with `ok` at `i > 0`: go on, the length is kept
  | case4 fuel i s v hget s₁ hb hne ih =>
    have h₁ := (minimise_ok run F hF hget).of_eq hb
    exact ih (by omega) (by rw [h₁.length]; omega) (h₀.trans run h₁)
  -- the search ends otherwise: it does not
  | case5 fuel i s v hget hne =>
    obtain ⟨s₁, hb, _⟩ := minimise_ok run F hF hget
    exact (hne s₁ hb).elim

theorem last_index {s₀ s : CE α} {F : Nat} (h₀ : LSteps run s₀ s) (hne : s₀.choices.length ≠ 0)
    (hF : s₀.choices.length ≤ F) :
    s.choices.length ≠ 0 ∧ s.choices.length - 1 < F ∧ s.choices.length - 1 < s.choices.length := by
  have := h₀.length
  omega

theorem minPass_ok (F : Nat) (hF : 256 ≤ F) {s₀ : CE α} (s : CE α) (h₀ : LSteps run s₀ s)
    (hne : s₀.choices.length ≠ 0) (hF' : s₀.choices.length ≤ F) :
    (minPass run F s).EndsIn (LSteps run s₀) := by
  obtain ⟨h0, h1, h2⟩ := last_index run h₀ hne hF'
  rw [minPass, if_neg h0]
  exact minLoop_ok run F hF F _ s h1 h2 h₀

theorem insertSorted_length (x : UInt8) : ∀ ys : Choices, (insertSorted x ys).length = ys.length + 1
  | [] => rfl
  | y :: ys => by
    unfold insertSorted
    split
    · rfl
    · rw [List.length_cons, insertSorted_length x ys, List.length_cons]

theorem sortAsc_length : ∀ l : Choices, (sortAsc l).length = l.length
  | [] => rfl
  | x :: xs => by rw [sortAsc, insertSorted_length, sortAsc_length xs, List.length_cons]

theorem insertSorted_lexLe (x : UInt8) : ∀ (ys ys' : Choices),
    lexLe ys ys' = true → lexLe (insertSorted x ys) (x :: ys') = true
  | [], _, _ => (lexLe_cons ..).mpr (.inr ⟨rfl, rfl⟩)
  | y :: ys, ys', h => by
    unfold insertSorted
    split
    next => exact (lexLe_cons ..).mpr (.inr ⟨rfl, h⟩)
    next hxy => exact (lexLe_cons ..).mpr (.inl (UInt8.not_le.mp hxy))

theorem sortAsc_lexLe : ∀ l : Choices, lexLe (sortAsc l) l = true
  | [] => rfl
  | x :: xs => insertSorted_lexLe x _ _ (sortAsc_lexLe xs)

/-- what `replace` does with a zipped range -/
theorem applyIvs_zip_range : ∀ (vs p q r : Choices), vs.length = q.length →
    applyIvs (p ++ (q ++ r)) ((List.range' p.length vs.length).zip vs) = some (p ++ (vs ++ r))
  | [], p, [], r, _ => rfl
  | v :: vs, p, c :: q, r, h => by
    have ih := applyIvs_zip_range vs (p ++ [v]) q r (Nat.succ_inj.mp h)
    simp only [List.append_assoc, List.singleton_append, List.length_append,
      List.length_singleton] at ih
    rw [List.length_cons, List.range'_succ, List.zip_cons_cons, applyIvs, if_neg (by simp),
      List.set_append_right _ _ (Nat.le_refl _), Nat.sub_self]
    exact ih

theorem sortIvs_lexLe (cs : Choices) (i k : Nat) (hik : k ≤ i) (hi : i ≤ cs.length) (cs' : Choices)
    (h : applyIvs cs (sortIvs cs i k) = some cs') : lexLe cs' cs = true := by
  -- `cs = p ++ (q ++ r)` with `q` the chunk `i - k ..< i`
  have hcs : cs.take (i - k) ++ ((cs.drop (i - k)).take k ++ cs.drop (i - k + k)) = cs := by
    rw [← List.drop_drop, List.take_append_drop, List.take_append_drop]
  have hp : (cs.take (i - k)).length = i - k := by rw [List.length_take]; omega
  have hq : ((cs.drop (i - k)).take k).length = k := by
    rw [List.length_take, List.length_drop]; omega
  have := applyIvs_zip_range (sortAsc ((cs.drop (i - k)).take k)) (cs.take (i - k)) _
    (cs.drop (i - k + k)) (sortAsc_length _)
  rw [hcs, hp, sortAsc_length, hq] at this
  cases h.symm.trans this
  conv => lhs; arg 2; rw [← hcs]
  exact lexLe_append_left _ (lexLe_append_right _ (sortAsc_length _) (sortAsc_lexLe _))

theorem sortLoop_ok (k : Nat) (hk : 1 ≤ k) {s₀ : CE α} (fuel i : Nat) (s : CE α)
    (hfuel : i < fuel) (hi : i ≤ s.choices.length) (h₀ : LSteps run s₀ s) :
    (sortLoop run k fuel i s).EndsIn (LSteps run s₀) := by
  fun_induction sortLoop run k fuel i s with
  -- no fuel: `i < fuel`; the slice panics: `i ≤ |choices|`
  | case1 => omega
  | case2 => omega
  -- the sorted chunk is lexicographically no larger, so `replace` makes a length-keeping step
  | case3 fuel i s hik _ ih =>
    have h₁ : LSteps run s (replace run s (sortIvs s.choices i k)).2 :=
      replace_lsteps run rfl (sortIvs_lexLe s.choices i k hik hi)
    exact ih (by omega) (by rw [h₁.length]; omega) (h₀.trans run h₁)
  | case4 => exact .ok h₀

theorem sortPass_ok (F k : Nat) (hk : 1 ≤ k) {s₀ : CE α} (s : CE α) (h₀ : LSteps run s₀ s)
    (hne : s₀.choices.length ≠ 0) (hF : s₀.choices.length ≤ F) :
    (sortPass run F k s).EndsIn (LSteps run s₀) := by
  obtain ⟨h0, h1, h2⟩ := last_index run h₀ hne hF
  rw [sortPass, if_neg h0]
  exact sortLoop_ok run k hk F _ s h1 (Nat.le_of_lt h2) h₀

theorem swap_lsteps {s : CE α} {i j : Nat} {ci : UInt8} (cj : UInt8) (hij : i < j)
    (hci : s.choices[i]? = some ci) :
    LSteps run s (if ci > cj then (replace run s [(i, cj), (j, ci)]).2 else s) := by
  split
  next hgt => exact replace_lsteps run rfl fun _ h => (applyIvs_pair hij hci hgt h).1
  next => exact .refl run s

theorem redistribute_ok (F : Nat) (hF : 256 ≤ F) {s : CE α} {i j : Nat} {iv : UInt8} (jv : UInt8)
    (hij : i < j) (hiv : s.choices[i]? = some iv) :
    (if iv > 0 && jv ≤ 255 - iv then binarySearchReplace run (pairIvs i j iv jv) F 0 iv s
      else .ok s).EndsIn (LSteps run s) := by
  split
  next hc =>
    exact binarySearchReplace_ok run (bsOk_pair i j iv jv hij) F hF iv s iv hiv (Nat.le_refl _)
      fun _ h => (applyIvs_pair hij hiv (of_decide_eq_true (Bool.and_eq_true_iff.mp hc).1) h).1
  next => exact .ok (.refl run s)

theorem pairLoop_ok (F k : Nat) (hF : 256 ≤ F) (hk : 1 ≤ k) {s₀ : CE α} (fuel j : Nat) (s : CE α)
    (hfuel : j < fuel) (hj : j < s.choices.length) (h₀ : LSteps run s₀ s) :
    (pairLoop run F k fuel j s).EndsIn (LSteps run s₀) := by
  fun_induction pairLoop run F k fuel j s with
  | case1 => omega
  -- both pairs of reads succeed and the redistribution ends with `ok`
  | case2 fuel j s hjk i ci cj _ hci s₁ iv jv _ hiv r s₂ hr ih =>
    have hij : i < j := Nat.sub_lt_self hk hjk
    have h₁ : LSteps run s s₁ := swap_lsteps run cj hij hci
    have h₂ : LSteps run s₁ s₂ := (redistribute_ok run F hF jv hij hiv).of_eq hr
    exact ih (by omega) (by rw [h₂.length, h₁.length]; omega) ((h₀.trans run h₁).trans run h₂)
  -- the redistribution ends otherwise: it does not
  | case3 fuel j s hjk i ci cj _ hci s₁ iv jv _ hiv r hr =>
    obtain ⟨s₂, e, _⟩ := redistribute_ok run F hF jv (Nat.sub_lt_self hk hjk) hiv
    exact (hr s₂ e).elim
  -- a read after the swap, or before it, fails: `i < j < |choices|`, and the swap keeps the length
  | case4 fuel j s hjk i ci cj _ hci s₁ hnone =>
    have hij : i < j := Nat.sub_lt_self hk hjk
    have h₁ : LSteps run s s₁ := swap_lsteps run cj hij hci
    have hl := h₁.length
    exact (hnone _ _ (List.getElem?_eq_getElem (by omega)) (List.getElem?_eq_getElem (by omega))).elim
  | case5 fuel j s hjk i hnone =>
    have hij : i < j := Nat.sub_lt_self hk hjk
    exact (hnone _ _ (List.getElem?_eq_getElem (by omega)) (List.getElem?_eq_getElem (by omega))).elim
  | case6 => exact .ok h₀

theorem pairPass_ok (F k : Nat) (hF : 256 ≤ F) (hk : 1 ≤ k) {s₀ : CE α} (s : CE α)
    (h₀ : LSteps run s₀ s) (hne : s₀.choices.length ≠ 0) (hF' : s₀.choices.length ≤ F) :
    (pairPass run F k s).EndsIn (LSteps run s₀) := by
  obtain ⟨h0, h1, h2⟩ := last_index run h₀ hne hF'
  rw [pairPass, if_neg h0]
  exact pairLoop_ok run F k hF hk F _ s h1 h2 h₀

end AikenVerif.Shrink
