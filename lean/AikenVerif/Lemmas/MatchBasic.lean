import AikenVerif.Model.Match
/-!
Basic facts about `pmatchL`, typing, signatures (`lookupCtor`, `declAlts`, `witness`), and the three row
specialisations with the head values they are sound for (`FreshFor`) (C07).
-/
namespace AikenVerif.Match

theorem pmatchL_length {ps : List Pat} {vs : List Val} (h : pmatchL ps vs = true) : ps.length = vs.length := by
  induction ps generalizing vs with
  | nil => cases vs <;> simp_all [pmatchL]
  | cons p ps ih =>
    cases vs with
    | nil => simp [pmatchL] at h
    | cons v vs =>
      simp only [pmatchL, Bool.and_eq_true] at h
      simp [ih h.2]

theorem pmatchL_append {ps qs : List Pat} {vs ws : List Val} (hl : ps.length = vs.length) :
    pmatchL (ps ++ qs) (vs ++ ws) = (pmatchL ps vs && pmatchL qs ws) := by
  induction ps generalizing vs with
  | nil => cases vs <;> simp_all [pmatchL]
  | cons p ps ih =>
    cases vs with
    | nil => simp at hl
    | cons v vs =>
      simp only [List.length_cons, Nat.add_right_cancel_iff] at hl
      simp [pmatchL, ih hl, Bool.and_assoc]

theorem pmatchL_wilds {n : Nat} {vs : List Val} (h : vs.length = n) : pmatchL (wilds n) vs = true := by
  induction n generalizing vs with
  | zero => rw [List.eq_nil_of_length_eq_zero h]; rfl
  | succ n ih =>
    obtain ⟨v, vs, rfl⟩ := List.exists_cons_of_length_eq_add_one h
    rw [wilds, List.replicate_succ, pmatchL, pmatch, Bool.true_and]
    exact ih (Nat.succ.inj h)

@[simp] theorem wilds_length (n : Nat) : (wilds n).length = n := by simp [wilds]

theorem wilds_of_ne_zero {n : Nat} (hn : ¬ n = 0) : wilds n = .wild :: wilds (n - 1) := by
  obtain ⟨m, rfl⟩ := Nat.exists_eq_succ_of_ne_zero hn
  rfl

theorem wilds_append (a b : Nat) : wilds a ++ wilds b = wilds (a + b) := by
  simp [wilds, List.replicate_append_replicate]

theorem pmatch_ctor_ctor (c c' : Nat) (alts : Alts) (ps : List Pat) (vs : List Val) :
    pmatch (.ctor c alts ps) (.ctor c' vs) = (decide (c = c') && pmatchL ps vs) := by
  simp [pmatch]

theorem Pat.hasTyL_length {sg : Sig} {ps : List Pat} {ts : List Ty} (h : Pat.hasTyL sg ps ts = true) :
    ps.length = ts.length := by
  induction ps generalizing ts with
  | nil => cases ts <;> simp_all [Pat.hasTyL]
  | cons p ps ih =>
    cases ts with
    | nil => simp [Pat.hasTyL] at h
    | cons t ts =>
      simp only [Pat.hasTyL, Bool.and_eq_true] at h
      simp [ih h.2]

theorem Val.hasTyL_length {sg : Sig} {vs : List Val} {ts : List Ty} (h : Val.hasTyL sg vs ts = true) :
    vs.length = ts.length := by
  induction vs generalizing ts with
  | nil => cases ts <;> simp_all [Val.hasTyL]
  | cons p ps ih =>
    cases ts with
    | nil => simp [Val.hasTyL] at h
    | cons t ts =>
      simp only [Val.hasTyL, Bool.and_eq_true] at h
      simp [ih h.2]

theorem Pat.hasTyL_append {sg : Sig} {ps qs : List Pat} {ts us : List Ty} (hl : ps.length = ts.length) :
    Pat.hasTyL sg (ps ++ qs) (ts ++ us) = (Pat.hasTyL sg ps ts && Pat.hasTyL sg qs us) := by
  induction ps generalizing ts with
  | nil => cases ts <;> simp_all [Pat.hasTyL]
  | cons p ps ih =>
    cases ts with
    | nil => simp at hl
    | cons t ts =>
      simp only [List.length_cons, Nat.add_right_cancel_iff] at hl
      simp [Pat.hasTyL, ih hl, Bool.and_assoc]

theorem Val.hasTyL_append {sg : Sig} {vs ws : List Val} {ts us : List Ty} (hl : vs.length = ts.length) :
    Val.hasTyL sg (vs ++ ws) (ts ++ us) = (Val.hasTyL sg vs ts && Val.hasTyL sg ws us) := by
  induction vs generalizing ts with
  | nil => cases ts <;> simp_all [Val.hasTyL]
  | cons p ps ih =>
    cases ts with
    | nil => simp at hl
    | cons t ts =>
      simp only [List.length_cons, Nat.add_right_cancel_iff] at hl
      simp [Val.hasTyL, ih hl, Bool.and_assoc]

theorem Val.hasTyL_split {sg : Sig} {vs : List Val} {tys ts : List Ty}
    (h : Val.hasTyL sg vs (tys ++ ts) = true) :
    ∃ ws vs', vs = ws ++ vs' ∧ Val.hasTyL sg ws tys = true ∧ Val.hasTyL sg vs' ts = true := by
  induction tys generalizing vs with
  | nil => exact ⟨[], vs, rfl, by simp [Val.hasTyL], by simpa using h⟩
  | cons t tys ih =>
    cases vs with
    | nil => simp [Val.hasTyL] at h
    | cons v vs =>
      simp only [List.cons_append, Val.hasTyL, Bool.and_eq_true] at h
      obtain ⟨ws, vs', e, h1, h2⟩ := ih h.2
      exact ⟨v :: ws, vs', by simp [e], by simp [Val.hasTyL, h.1, h1], h2⟩

theorem Pat.hasTyL_wilds {sg : Sig} {n : Nat} {ts : List Ty} (h : ts.length = n) :
    Pat.hasTyL sg (wilds n) ts = true := by
  induction n generalizing ts with
  | zero => rw [List.eq_nil_of_length_eq_zero h]; rfl
  | succ n ih =>
    obtain ⟨t, ts, rfl⟩ := List.exists_cons_of_length_eq_add_one h
    rw [wilds, List.replicate_succ, Pat.hasTyL, Pat.hasTy, Bool.true_and]
    exact ih (Nat.succ.inj h)

theorem Pat.hasTyL_append_of {sg : Sig} {ps qs : List Pat} {ts us : List Ty}
    (h1 : Pat.hasTyL sg ps ts = true) (h2 : Pat.hasTyL sg qs us = true) :
    Pat.hasTyL sg (ps ++ qs) (ts ++ us) = true := by
  rw [Pat.hasTyL_append (Pat.hasTyL_length h1), h1, h2]; rfl

theorem Val.hasTyL_append_of {sg : Sig} {vs ws : List Val} {ts us : List Ty}
    (h1 : Val.hasTyL sg vs ts = true) (h2 : Val.hasTyL sg ws us = true) :
    Val.hasTyL sg (vs ++ ws) (ts ++ us) = true := by
  rw [Val.hasTyL_append (Val.hasTyL_length h1), h1, h2]; rfl

theorem pmatchL_append_of {ps qs : List Pat} {vs ws : List Val}
    (h1 : pmatchL ps vs = true) (h2 : pmatchL qs ws = true) : pmatchL (ps ++ qs) (vs ++ ws) = true := by
  rw [pmatchL_append (pmatchL_length h1), h1, h2]; rfl

theorem Val.hasTy_lit (sg : Sig) (l : Lit) (t : Ty) : Val.hasTy sg (.lit l) t = Pat.hasTy sg (.lit l) t := by
  cases l <;> cases t <;> rfl

theorem Val.hasTyL_cons {sg : Sig} {vs : List Val} {t : Ty} {ts : List Ty}
    (h : Val.hasTyL sg vs (t :: ts) = true) :
    ∃ w ws, vs = w :: ws ∧ Val.hasTy sg w t = true ∧ Val.hasTyL sg ws ts = true := by
  cases vs with
  | nil => simp [Val.hasTyL] at h
  | cons w ws => exact ⟨w, ws, rfl, by simpa [Val.hasTyL] using h⟩

theorem Val.hasTyL_singleton {sg : Sig} {vs : List Val} {t : Ty} (h : Val.hasTyL sg vs [t] = true) :
    ∃ x, vs = [x] ∧ Val.hasTy sg x t = true := by
  obtain ⟨x, ws, rfl, hx, hws⟩ := Val.hasTyL_cons h
  cases ws with
  | nil => exact ⟨x, rfl, hx⟩
  | cons _ _ => cases hws

theorem Pat.hasTyL_cons {sg : Sig} {p : Pat} {ps : List Pat} {ts : List Ty}
    (h : Pat.hasTyL sg (p :: ps) ts = true) :
    ∃ t ts', ts = t :: ts' ∧ Pat.hasTy sg p t = true ∧ Pat.hasTyL sg ps ts' = true := by
  cases ts with
  | nil => simp [Pat.hasTyL] at h
  | cons t ts => exact ⟨t, ts, rfl, by simpa [Pat.hasTyL] using h⟩

theorem pmatchL_cons {p : Pat} {ps : List Pat} {vs : List Val} (h : pmatchL (p :: ps) vs = true) :
    ∃ w ws, vs = w :: ws ∧ pmatch p w = true ∧ pmatchL ps ws = true := by
  cases vs with
  | nil => simp [pmatchL] at h
  | cons w ws => exact ⟨w, ws, rfl, by simpa [pmatchL] using h⟩

theorem Matrix.hasTy_cons {sg : Sig} {r : Row} {M : Matrix} {ts : List Ty} :
    Matrix.hasTy sg (r :: M) ts = (Pat.hasTyL sg r ts && Matrix.hasTy sg M ts) := by
  simp [Matrix.hasTy]

theorem Matrix.hasTy_mem {sg : Sig} {M : Matrix} {ts : List Ty} (h : Matrix.hasTy sg M ts = true)
    {r : Row} (hr : r ∈ M) : Pat.hasTyL sg r ts = true := by
  simp only [Matrix.hasTy, List.all_eq_true] at h
  exact h r hr

theorem Matrix.hasTy_of_forall {sg : Sig} {M : Matrix} {ts : List Ty}
    (h : ∀ r ∈ M, Pat.hasTyL sg r ts = true) : Matrix.hasTy sg M ts = true := by
  simp only [Matrix.hasTy, List.all_eq_true]
  exact h

theorem Pat.hasTy_ctor {sg : Sig} {c : Nat} {alts : Alts} {ps : List Pat} {t0 : Ty}
    (h : Pat.hasTy sg (.ctor c alts ps) t0 = true) :
    ∃ t d tys, t0 = .data t ∧ sg[t]? = some d ∧ alts = declAlts d ∧ lookupCtor c d = some tys ∧
      Pat.hasTyL sg ps tys = true := by
  cases t0 with
  | int | bytes => simp [Pat.hasTy] at h
  | data t =>
    simp only [Pat.hasTy] at h
    cases hd : sg[t]? with
    | none => simp [hd] at h
    | some d =>
      cases hl : lookupCtor c d with
      | none => simp [hd, hl] at h
      | some tys => exact ⟨t, d, tys, rfl, hd, by simpa [hd, hl] using h⟩

theorem Val.hasTy_ctor {sg : Sig} {c : Nat} {vs : List Val} {t0 : Ty}
    (h : Val.hasTy sg (.ctor c vs) t0 = true) :
    ∃ t d tys, t0 = .data t ∧ sg[t]? = some d ∧ lookupCtor c d = some tys ∧
      Val.hasTyL sg vs tys = true := by
  cases t0 with
  | int | bytes => simp [Val.hasTy] at h
  | data t =>
    simp only [Val.hasTy] at h
    cases hd : sg[t]? with
    | none => simp [hd] at h
    | some d =>
      cases hl : lookupCtor c d with
      | none => simp [hd, hl] at h
      | some tys => exact ⟨t, d, tys, rfl, hd, hl, by simpa [hd, hl] using h⟩

theorem Val.hasTy_data {sg : Sig} {v : Val} {t : Nat} (h : Val.hasTy sg v (.data t) = true) :
    ∃ c vs d tys, v = .ctor c vs ∧ sg[t]? = some d ∧ lookupCtor c d = some tys ∧
      Val.hasTyL sg vs tys = true := by
  cases v with
  | lit l => cases l <;> simp [Val.hasTy] at h
  | ctor c vs =>
    obtain ⟨t', d, tys, e, hd, hl, hv⟩ := Val.hasTy_ctor h
    cases e
    exact ⟨c, vs, d, tys, rfl, hd, hl, hv⟩

theorem Val.hasTy_ctor_eq {sg : Sig} {c : Nat} {vs : List Val} {t : Nat} {d : Decl} {tys : List Ty}
    (hd : sg[t]? = some d) (hl : lookupCtor c d = some tys) :
    Val.hasTy sg (.ctor c vs) (.data t) = Val.hasTyL sg vs tys := by
  simp [Val.hasTy, hd, hl]

theorem Val.hasTy_ctor_intro {sg : Sig} {c : Nat} {vs : List Val} {t : Nat} {d : Decl} {tys : List Ty}
    (hd : sg[t]? = some d) (hl : lookupCtor c d = some tys) (hv : Val.hasTyL sg vs tys = true) :
    Val.hasTy sg (.ctor c vs) (.data t) = true := by
  rw [Val.hasTy_ctor_eq hd hl, hv]

theorem lookupCtor_mem {c : Nat} {d : Decl} {tys : List Ty} (h : lookupCtor c d = some tys) :
    (c, tys) ∈ d := by
  induction d with
  | nil => simp [lookupCtor] at h
  | cons x d ih =>
    obtain ⟨c', tys'⟩ := x
    simp only [lookupCtor] at h
    split at h
    · rename_i e; cases h; subst e; simp
    · simp [ih h]

theorem lookupCtor_mem_declAlts {c : Nat} {d : Decl} {tys : List Ty} (h : lookupCtor c d = some tys) :
    (c, tys.length) ∈ declAlts d :=
  List.mem_map.mpr ⟨(c, tys), lookupCtor_mem h, rfl⟩

theorem nodupNat_iff (l : List Nat) : nodupNat l = true ↔ l.Nodup := by
  induction l with
  | nil => simp [nodupNat]
  | cons x xs ih => simp [nodupNat, ih]

theorem declAlts_mem_lookup {d : Decl} (hn : (d.map (·.1)).Nodup) {alt : Nat × Nat}
    (h : alt ∈ declAlts d) : ∃ tys, lookupCtor alt.1 d = some tys ∧ tys.length = alt.2 := by
  induction d with
  | nil => simp [declAlts] at h
  | cons x d ih =>
    obtain ⟨c', tys'⟩ := x
    simp only [List.map_cons, List.nodup_cons] at hn
    simp only [declAlts, List.map_cons, List.mem_cons] at h
    rcases h with h | h
    · subst h; exact ⟨tys', by simp [lookupCtor], rfl⟩
    · obtain ⟨tys, h1, h2⟩ := ih hn.2 h
      refine ⟨tys, ?_, h2⟩
      have hne : c' ≠ alt.1 := fun e => hn.1 (e ▸ List.mem_map.mpr ⟨_, lookupCtor_mem h1, rfl⟩)
      simp [lookupCtor, hne, h1]

section Signature
variable {sg : Sig} {t : Nat} {ts : List Ty} {d : Decl}

theorem lookupCtor_name_mem {c : Nat} {tys : List Ty} (h : lookupCtor c d = some tys) :
    c ∈ d.map (·.1) := List.mem_map.mpr ⟨_, lookupCtor_mem h, rfl⟩

theorem mem_name_lookup {c : Nat} (h : c ∈ d.map (·.1)) : ∃ tys, lookupCtor c d = some tys := by
  induction d with
  | nil => simp at h
  | cons x d ih =>
    obtain ⟨c', tys'⟩ := x
    simp only [lookupCtor]
    split
    · exact ⟨_, rfl⟩
    · rename_i hne
      simp only [List.map_cons, List.mem_cons] at h
      rcases h with h | h
      · exact absurd h.symm hne
      · exact ih h

theorem Sig.ok_get (hs : Sig.ok sg = true) (hd : sg[t]? = some d) :
    (d.map (·.1)).Nodup ∧ ∀ c tys, lookupCtor c d = some tys → ∀ ty ∈ tys, Ty.ok sg ty = true := by
  have hmem : d ∈ sg := List.mem_of_getElem? hd
  simp only [Sig.ok, List.all_eq_true, Bool.and_eq_true] at hs
  obtain ⟨h1, h2⟩ := hs d hmem
  exact ⟨(nodupNat_iff _).mp h1, fun c tys hl => h2 (c, tys) (lookupCtor_mem hl)⟩

theorem Sig.ok_fields (hs : Sig.ok sg = true) (hd : sg[t]? = some d)
    {c : Nat} {tys ts : List Ty} (hl : lookupCtor c d = some tys) (hok : ∀ ty ∈ ts, Ty.ok sg ty = true) :
    ∀ ty ∈ tys ++ ts, Ty.ok sg ty = true := by
  intro ty hty
  rcases List.mem_append.mp hty with h | h
  · exact (Sig.ok_get hs hd).2 c tys hl ty h
  · exact hok ty h

theorem witness_hasTy {inh : List Val} (hi : inhOk sg inh = true) {t : Ty}
    (ht : Ty.ok sg t = true) : Val.hasTy sg (witness inh t) t = true := by
  cases t with
  | int => simp [witness, Val.hasTy]
  | bytes => simp [witness, Val.hasTy]
  | data t =>
    simp only [Ty.ok, decide_eq_true_eq] at ht
    simp only [inhOk, List.all_eq_true, List.mem_range] at hi
    exact hi t ht

theorem witnessL_hasTy {inh : List Val} (hi : inhOk sg inh = true)
    (ht : ∀ t ∈ ts, Ty.ok sg t = true) : Val.hasTyL sg (ts.map (witness inh)) ts = true := by
  induction ts with
  | nil => simp [Val.hasTyL]
  | cons t ts ih =>
    simp only [List.map_cons, Val.hasTyL, Bool.and_eq_true]
    exact ⟨witness_hasTy hi (ht t List.mem_cons_self), ih (fun t' h' => ht t' (List.mem_cons_of_mem _ h'))⟩

end Signature

/-! Each of the three specialisations keeps exactly the rows that can still match once the head value
is known, and turns "matches `w :: vs`" into "matches the specialised vector". -/

theorem pmatch_ctor_iff {c : Nat} {alts : Alts} {args : List Pat} {w : Val} :
    pmatch (.ctor c alts args) w = true ↔ ∃ ws, w = .ctor c ws ∧ pmatchL args ws = true := by
  cases w with
  | lit l => simp [pmatch]
  | ctor c' ws =>
    simp only [pmatch, Bool.and_eq_true, decide_eq_true_eq]
    constructor
    · rintro ⟨rfl, h⟩; exact ⟨ws, rfl, h⟩
    · rintro ⟨ws', e, h⟩; cases e; exact ⟨rfl, h⟩

theorem exists_mem_filterMap_iff {f : Row → Option Row} {M : Matrix} {P Q : Row → Prop}
    (h : ∀ r ∈ M, P r ↔ ∃ r', f r = some r' ∧ Q r') :
    (∃ r ∈ M, P r) ↔ ∃ r' ∈ M.filterMap f, Q r' := by
  simp only [List.mem_filterMap]
  constructor
  · rintro ⟨r, hr, hp⟩
    obtain ⟨r', h1, h2⟩ := (h r hr).mp hp
    exact ⟨r', ⟨r, hr, h1⟩, h2⟩
  · rintro ⟨r', ⟨r, hr, h1⟩, h2⟩
    exact ⟨r, hr, (h r hr).mpr ⟨r', h1, h2⟩⟩

theorem specRowCtor_matches (c : Nat) (ws vs : List Val) (r : Row) :
    pmatchL r (.ctor c ws :: vs) = true ↔
      ∃ r', specRowCtor c ws.length r = some r' ∧ pmatchL r' (ws ++ vs) = true := by
  match r with
  | [] => simp [pmatchL, specRowCtor]
  | .wild :: rest =>
    simp [pmatchL, pmatch, specRowCtor, pmatchL_append, pmatchL_wilds]
  | .lit l :: rest => simp [pmatchL, pmatch, specRowCtor]
  | .ctor c' alts args :: rest =>
    simp only [pmatchL, pmatch, specRowCtor, Bool.and_eq_true, decide_eq_true_eq]
    constructor
    · rintro ⟨⟨e, hm⟩, hr⟩
      have hl := pmatchL_length hm
      exact ⟨args ++ rest, by simp [e, hl], by simp [pmatchL_append hl, hm, hr]⟩
    · rintro ⟨r', h1, h2⟩
      split at h1
      · rename_i hc
        cases h1
        simp only [pmatchL_append hc.2, Bool.and_eq_true] at h2
        exact ⟨⟨hc.1, h2.1⟩, h2.2⟩
      · cases h1

theorem specCtor_matches (c : Nat) (ws vs : List Val) (M : Matrix) :
    (∃ r ∈ M, pmatchL r (.ctor c ws :: vs) = true) ↔
      ∃ r' ∈ specCtor c ws.length M, pmatchL r' (ws ++ vs) = true :=
  exists_mem_filterMap_iff fun r _ => specRowCtor_matches c ws vs r

theorem specRowLit_matches (l : Lit) (vs : List Val) (r : Row) :
    pmatchL r (.lit l :: vs) = true ↔ ∃ r', specRowLit l r = some r' ∧ pmatchL r' vs = true := by
  match r with
  | [] => simp [pmatchL, specRowLit]
  | .wild :: rest => simp [pmatchL, pmatch, specRowLit]
  | .ctor c' alts args :: rest => simp [pmatchL, pmatch, specRowLit]
  | .lit l' :: rest =>
    by_cases e : l' = l <;> simp [pmatchL, pmatch, specRowLit, e]

theorem specLit_matches (l : Lit) (vs : List Val) (M : Matrix) :
    (∃ r ∈ M, pmatchL r (.lit l :: vs) = true) ↔ ∃ r' ∈ specLit l M, pmatchL r' vs = true :=
  exists_mem_filterMap_iff fun r _ => specRowLit_matches l vs r

/-- `w` is a head value that no non-wildcard head of the first column of `M` matches. -/
def FreshFor (M : Matrix) (w : Val) : Prop :=
  ∀ p rest, (p :: rest) ∈ M → p ≠ .wild → pmatch p w = false

theorem specWild_matches {M : Matrix} {w : Val} (hw : FreshFor M w) (vs : List Val) :
    (∃ r ∈ M, pmatchL r (w :: vs) = true) ↔ ∃ r' ∈ specWild M, pmatchL r' vs = true := by
  refine exists_mem_filterMap_iff fun r hr => ?_
  match r with
  | [] => simp [pmatchL, specRowWild]
  | .wild :: rest => simp [pmatchL, pmatch, specRowWild]
  | .lit l :: rest => simp [pmatchL, specRowWild, hw _ _ hr]
  | .ctor c a args :: rest => simp [pmatchL, specRowWild, hw _ _ hr]

theorem specWild_matches_of {M : Matrix} {vs : List Val} (w : Val)
    (h : ∃ r' ∈ specWild M, pmatchL r' vs = true) : ∃ r ∈ M, pmatchL r (w :: vs) = true := by
  obtain ⟨r', hr', hm⟩ := h
  obtain ⟨r, hr, e⟩ := List.mem_filterMap.mp hr'
  rw [specRowWild_eq_some.mp e] at hr
  exact ⟨_, hr, by simp [pmatchL, pmatch, hm]⟩

theorem unmatched_of_iff {M M' : Matrix} {vs vs' : List Val}
    (h : (∃ r ∈ M, pmatchL r vs = true) ↔ ∃ r' ∈ M', pmatchL r' vs' = true)
    (h' : ∀ r' ∈ M', pmatchL r' vs' = false) : ∀ r ∈ M, pmatchL r vs = false := by
  intro r hr
  cases hm : pmatchL r vs with
  | false => rfl
  | true =>
    obtain ⟨r', hr', hm'⟩ := h.mp ⟨r, hr, hm⟩
    rw [h' r' hr'] at hm'
    cases hm'

theorem Matrix.hasTy_filterMap {sg : Sig} {M : Matrix} {ts ts' : List Ty} {f : Row → Option Row}
    (hM : Matrix.hasTy sg M ts = true)
    (h : ∀ r r', Pat.hasTyL sg r ts = true → f r = some r' → Pat.hasTyL sg r' ts' = true) :
    Matrix.hasTy sg (M.filterMap f) ts' = true := by
  apply Matrix.hasTy_of_forall
  intro r' hr'
  obtain ⟨r, hr, e⟩ := List.mem_filterMap.mp hr'
  exact h r r' (Matrix.hasTy_mem hM hr) e

theorem Pat.hasTyL_cons_cons {sg : Sig} {p : Pat} {rest : List Pat} {t0 : Ty} {ts : List Ty} :
    Pat.hasTyL sg (p :: rest) (t0 :: ts) = true ↔ Pat.hasTy sg p t0 = true ∧ Pat.hasTyL sg rest ts = true := by
  rw [Pat.hasTyL, Bool.and_eq_true]

theorem specCtor_hasTy {sg : Sig} {M : Matrix} {t : Nat} {ts : List Ty} {d : Decl} {c : Nat} {tys : List Ty}
    (hM : Matrix.hasTy sg M (.data t :: ts) = true) (hd : sg[t]? = some d)
    (hl : lookupCtor c d = some tys) :
    Matrix.hasTy sg (specCtor c tys.length M) (tys ++ ts) = true := by
  refine Matrix.hasTy_filterMap hM fun r r' hrt e => ?_
  rcases specRowCtor_eq_some.mp e with ⟨rest, rfl, rfl⟩ | ⟨alts, args, rest, rfl, _, rfl⟩
  · exact Pat.hasTyL_append_of (Pat.hasTyL_wilds rfl) (Pat.hasTyL_cons_cons.mp hrt).2
  · obtain ⟨t', d', tys', e1, hd', _, hl', hargs⟩ := Pat.hasTy_ctor (Pat.hasTyL_cons_cons.mp hrt).1
    cases e1
    rw [hd] at hd'; cases hd'
    rw [hl] at hl'; cases hl'
    exact Pat.hasTyL_append_of hargs (Pat.hasTyL_cons_cons.mp hrt).2

theorem specWild_hasTy {sg : Sig} {M : Matrix} {t0 : Ty} {ts : List Ty}
    (hM : Matrix.hasTy sg M (t0 :: ts) = true) : Matrix.hasTy sg (specWild M) ts = true := by
  refine Matrix.hasTy_filterMap hM fun r r' hrt e => ?_
  rw [specRowWild_eq_some.mp e] at hrt
  exact (Pat.hasTyL_cons_cons.mp hrt).2

theorem specLit_hasTy {sg : Sig} {M : Matrix} {t0 : Ty} {ts : List Ty} (l : Lit)
    (hM : Matrix.hasTy sg M (t0 :: ts) = true) : Matrix.hasTy sg (specLit l M) ts = true := by
  refine Matrix.hasTy_filterMap hM fun r r' hrt e => ?_
  rcases specRowLit_eq_some.mp e with rfl | rfl
  · exact (Pat.hasTyL_cons_cons.mp hrt).2
  · exact (Pat.hasTyL_cons_cons.mp hrt).2

end AikenVerif.Match
