import AikenVerif.Lemmas.CekTerminates
/-!
Non-negativity of builtin prices from a decidable check on the cost model: every size measure is
non-negative and a costing function without negative coefficients maps non-negative sizes to a
non-negative price.  Discharges `NonnegCosts` / `PosCosts` for a concrete cost model.
-/
namespace AikenVerif
open Gen

theorem integerExMem_nonneg (i : Int) : 0 ≤ integerExMem i := by
  unfold integerExMem; split <;> omega

theorem bytesExMem_nonneg (b : Bytes) : 0 ≤ bytesExMem b := by
  unfold bytesExMem; split <;> omega

mutual
  theorem dataExMem_nonneg : ∀ d : Data, 0 ≤ dataExMem d
    | .constr _ fs => Int.add_nonneg (by decide) (dataExMemList_nonneg fs)
    | .map es => Int.add_nonneg (by decide) (dataExMemPairs_nonneg es)
    | .list xs => Int.add_nonneg (by decide) (dataExMemList_nonneg xs)
    | .int n => Int.add_nonneg (by decide) (integerExMem_nonneg n)
    | .bytes b => Int.add_nonneg (by decide) (bytesExMem_nonneg b)
  theorem dataExMemList_nonneg : ∀ ds : List Data, 0 ≤ dataExMemList ds
    | [] => Int.le_refl 0
    | d :: ds => Int.add_nonneg (dataExMem_nonneg d) (dataExMemList_nonneg ds)
  theorem dataExMemPairs_nonneg : ∀ es : List (Data × Data), 0 ≤ dataExMemPairs es
    | [] => Int.le_refl 0
    | (k, v) :: es =>
      Int.add_nonneg (Int.add_nonneg (dataExMem_nonneg k) (dataExMem_nonneg v)) (dataExMemPairs_nonneg es)
end

mutual
  theorem constExMem_nonneg (sem : Sem) : ∀ c : Const, 0 ≤ constExMem sem c
    | .integer i => integerExMem_nonneg i
    | .bytestring b => bytesExMem_nonneg b
    | .string s => by simp only [constExMem]; split <;> exact Int.natCast_nonneg _
    | .unit => (by decide : (0 : Int) ≤ 1)
    | .bool _ => (by decide : (0 : Int) ≤ 1)
    | .list _ xs => constExMemList_nonneg sem xs
    | .pair _ _ x y => Int.add_nonneg (constExMem_nonneg sem x) (constExMem_nonneg sem y)
    | .data d => dataExMem_nonneg d
    | .g1 _ => (by decide : (0 : Int) ≤ 18)
    | .g2 _ => (by decide : (0 : Int) ≤ 36)
    | .ml _ => (by decide : (0 : Int) ≤ 72)
  theorem constExMemList_nonneg (sem : Sem) : ∀ cs : List Const, 0 ≤ constExMemList sem cs
    | [] => Int.le_refl 0
    | c :: cs => Int.add_nonneg (constExMem_nonneg sem c) (constExMemList_nonneg sem cs)
end

theorem valueExMem_nonneg (sem : Sem) (v : Value) : 0 ≤ valueExMem sem v := by
  cases v <;> simp only [valueExMem] <;> first | exact constExMem_nonneg sem _ | omega

theorem costAsSize_nonneg (b : Builtin) (v : Value) (x : Int) (h : costAsSize b v = .ok x) : 0 ≤ x := by
  unfold costAsSize at h
  split at h
  · rename_i size
    split at h
    · split at h <;> cases h
    · rename_i hc
      simp only [Bool.or_eq_true, decide_eq_true_eq, not_or, Int.not_lt] at hc
      cases h
      split <;> omega
  · cases h

theorem measure_nonneg (sem : Sem) (b : Builtin) (args : List Value) (m : Measure) (x : Int)
    (h : measure sem b args m = .ok x) : 0 ≤ x := by
  cases m <;> obtain ⟨v, _, h⟩ := Res.bind_eq_ok h
  case exMem | exMemSem => cases h; exact valueExMem_nonneg _ v
  case asSize =>
    split at h
    · rename_i y hy; cases h; exact costAsSize_nonneg b v _ hy
    · cases h
  case listLen =>
    split at h
    · cases h; exact Int.natCast_nonneg _
    · cases h
  case literalAbs =>
    split at h
    · cases h
      split
      · decide
      · exact Int.natCast_nonneg _
    · cases h
  case listLenOrExMem =>
    split at h <;> cases h
    · exact Int.natCast_nonneg _
    · exact valueExMem_nonneg _ v

theorem measures_nonneg (sem : Sem) (b : Builtin) (args : List Value) : ∀ (ms : List Measure) (xs : List Int),
    measures sem b args ms = .ok xs → ∀ x ∈ xs, 0 ≤ x := by
  intro ms
  induction ms with
  | nil => intro xs h; cases h; intro x hx; cases hx
  | cons m ms ih =>
    intro xs h
    obtain ⟨y, hm, h⟩ := Res.bind_eq_ok h
    obtain ⟨ys, hr, h⟩ := Res.bind_eq_ok h
    cases h
    intro x hx
    rcases List.mem_cons.mp hx with rfl | hx
    · exact measure_nonneg sem b args m _ hm
    · exact ih ys hr x hx

theorem sat_nonneg {x : Int} (h : 0 ≤ x) : 0 ≤ sat x := by
  unfold sat i64Max i64Min
  split
  · omega
  · split <;> omega

theorem lin_nonneg {i s x : Int} (hi : 0 ≤ i) (hs : 0 ≤ s) (hx : 0 ≤ x) : 0 ≤ s * x + i :=
  Int.add_nonneg (Int.mul_nonneg hs hx) hi

theorem quad_nonneg {c0 c1 c2 x : Int} (h0 : 0 ≤ c0) (h1 : 0 ≤ c1) (h2 : 0 ≤ c2) (hx : 0 ≤ x) :
    0 ≤ c0 + c1 * x + c2 * x * x :=
  Int.add_nonneg (Int.add_nonneg h0 (Int.mul_nonneg h1 hx)) (Int.mul_nonneg (Int.mul_nonneg h2 hx) hx)

theorem Cost1.cost_nonneg (f : Cost1) (hf : f.nonneg = true) (x : Int) (hx : 0 ≤ x) : 0 ≤ f.cost x := by
  cases f <;> simp only [Cost1.nonneg, Bool.and_eq_true, decide_eq_true_eq] at hf
  case const => exact hf
  case linear => exact lin_nonneg hf.1 hf.2 hx
  case quadratic => exact quad_nonneg hf.1.1 hf.1.2 hf.2 hx

theorem quadXY_nonneg (mn c00 c10 c01 c20 c11 c02 x y : Int) (h : 0 ≤ mn) :
    0 ≤ quadXY mn c00 c10 c01 c20 c11 c02 x y :=
  Int.le_trans h (Int.le_max_left ..)

theorem Cost2.cost_nonneg : ∀ (f : Cost2), f.nonneg = true → ∀ x y : Int, 0 ≤ x → 0 ≤ y → 0 ≤ f.cost x y := by
  intro f
  induction f <;> intro hf x y hx hy <;> simp only [Cost2.nonneg, Bool.and_eq_true, decide_eq_true_eq] at hf
  case const => exact hf
  case linearInX => exact sat_nonneg (Int.add_nonneg (sat_nonneg (Int.mul_nonneg hf.2 hx)) hf.1)
  case linearInY | linearInY2 => exact sat_nonneg (Int.add_nonneg (sat_nonneg (Int.mul_nonneg hf.2 hy)) hf.1)
  case linearInXAndY =>
    exact Int.add_nonneg (Int.add_nonneg (Int.mul_nonneg hf.1.2 hx) (Int.mul_nonneg hf.2 hy)) hf.1.1
  case withInteraction =>
    exact Int.add_nonneg (Int.add_nonneg (Int.add_nonneg hf.1.1.1 (Int.mul_nonneg hf.1.1.2 hx))
      (Int.mul_nonneg hf.1.2 hy)) (Int.mul_nonneg (Int.mul_nonneg hf.2 hx) hy)
  case addedSizes => exact lin_nonneg hf.1 hf.2 (Int.add_nonneg hx hy)
  case subtractedSizes => exact lin_nonneg hf.1.1 hf.1.2 (Int.le_trans hf.2 (Int.le_max_left ..))
  case multipliedSizes => exact lin_nonneg hf.1 hf.2 (Int.mul_nonneg hx hy)
  case minSize => exact lin_nonneg hf.1 hf.2 (Int.le_min.2 ⟨hx, hy⟩)
  case maxSize => exact lin_nonneg hf.1 hf.2 (Int.le_trans hx (Int.le_max_left ..))
  case linearOnDiagonal =>
    simp only [Cost2.cost]
    split
    · exact Int.add_nonneg (Int.mul_nonneg hx hf.2) hf.1.2
    · exact hf.1.1
  case constAboveDiagonal ih | constBelowDiagonal ih =>
    simp only [Cost2.cost]
    split
    · exact hf.1
    · exact ih hf.2 x y hx hy
  case aboveAndBelowDiagonal ih =>
    exact ih hf _ _ (Int.le_trans hx (Int.le_max_left ..)) (Int.le_min.2 ⟨hx, hy⟩)
  case quadraticInY => exact quad_nonneg hf.1.1 hf.1.2 hf.2 hy
  case quadraticInXAndY => exact quadXY_nonneg _ _ _ _ _ _ _ _ _ hf
  case constAboveDiagonalIntoQuadratic =>
    simp only [Cost2.cost]
    split
    · exact hf.1
    · exact quadXY_nonneg _ _ _ _ _ _ _ _ _ hf.2

theorem Cost3.cost_nonneg (f : Cost3) (hf : f.nonneg = true) (x y z : Int) (hx : 0 ≤ x) (hy : 0 ≤ y) (hz : 0 ≤ z) :
    0 ≤ f.cost x y z := by
  cases f <;> simp only [Cost3.nonneg, Bool.and_eq_true, decide_eq_true_eq] at hf
  case const => exact hf
  case addedSizes => exact Int.add_nonneg (Int.mul_nonneg (Int.add_nonneg (Int.add_nonneg hx hy) hz) hf.2) hf.1
  case linearInX => exact Int.add_nonneg (Int.mul_nonneg hx hf.2) hf.1
  case linearInY => exact Int.add_nonneg (Int.mul_nonneg hy hf.2) hf.1
  case linearInZ => exact Int.add_nonneg (Int.mul_nonneg hz hf.2) hf.1
  case quadraticInZ => exact quad_nonneg hf.1.1 hf.1.2 hf.2 hz
  case expMod c00 c11 c12 =>
    have hc : 0 ≤ c00 + c11 * y * z + c12 * y * z * z :=
      Int.add_nonneg (Int.add_nonneg hf.1.1 (Int.mul_nonneg (Int.mul_nonneg hf.1.2 hy) hz))
        (Int.mul_nonneg (Int.mul_nonneg (Int.mul_nonneg hf.2 hy) hz) hz)
    simp only [Cost3.cost]
    split
    · exact hc
    · exact Int.add_nonneg hc (Int.tdiv_nonneg hc (by decide))
  case literalInYorLinearInZ =>
    simp only [Cost3.cost]
    split
    · exact lin_nonneg hf.1 hf.2 hz
    · exact hy
  case linearInMaxYZ => exact Int.add_nonneg (Int.mul_nonneg (Int.le_trans hy (Int.le_max_left ..)) hf.2) hf.1
  case linearInYandZ => exact Int.add_nonneg (Int.add_nonneg (Int.mul_nonneg hy hf.1.2) (Int.mul_nonneg hz hf.2)) hf.1.1

theorem Cost4.cost_nonneg (f : Cost4) (hf : f.nonneg = true) (x y z u : Int) (hu : 0 ≤ u) : 0 ≤ f.cost x y z u := by
  cases f <;> simp only [Cost4.nonneg, Bool.and_eq_true, decide_eq_true_eq] at hf
  case const => exact hf
  case linearInU => exact lin_nonneg hf.1 hf.2 hu

theorem CostFun.apply_nonneg (f : CostFun) (hf : f.nonneg = true) (xs : List Int) (hx : ∀ x ∈ xs, 0 ≤ x) (c : Int)
    (h : f.apply xs = some c) : 0 ≤ c := by
  unfold CostFun.apply at h
  split at h <;> cases h
  · exact Cost1.cost_nonneg _ hf _ (hx _ (.head _))
  · exact Cost2.cost_nonneg _ hf _ _ (hx _ (.head _)) (hx _ (.tail _ (.head _)))
  · exact Cost3.cost_nonneg _ hf _ _ _ (hx _ (.head _)) (hx _ (.tail _ (.head _))) (hx _ (.tail _ (.tail _ (.head _))))
  · exact Cost4.cost_nonneg _ hf _ _ _ _ (hx _ (.tail _ (.tail _ (.tail _ (.head _)))))
  · exact of_decide_eq_true hf

theorem builtinCost_nonneg (cm : CostModel) (sem : Sem) (h : builtinsNonneg cm = true) (b : Builtin)
    (args : List Value) (c : ExBudget) (hc : builtinCost cm sem b args = .ok c) : ExBudget.le .zero c := by
  unfold builtinCost at hc
  obtain ⟨_, _, hc⟩ := Res.bind_eq_ok hc
  obtain ⟨ms, hm, hc⟩ := Res.bind_eq_ok hc
  obtain ⟨cs, hcs, hc⟩ := Res.bind_eq_ok hc
  obtain ⟨memF, hf1, hc⟩ := Res.bind_eq_ok hc
  obtain ⟨cpuF, hf2, hc⟩ := Res.bind_eq_ok hc
  have hall := List.all_eq_true.mp h
  split at hf1
  next he1 =>
    split at hf2
    next he2 =>
      cases hf1; cases hf2
      have h1 := hall _ (List.mem_of_find?_eq_some he1)
      have h2 := hall _ (List.mem_of_find?_eq_some he2)
      simp only [Bool.and_eq_true] at h1 h2
      split at hc
      next vm vc ha1 ha2 =>
        cases hc
        exact ⟨CostFun.apply_nonneg _ h1.1 ms (measures_nonneg sem b args _ ms hm) vm ha1,
               CostFun.apply_nonneg _ h2.2 cs (measures_nonneg sem b args _ cs hcs) vc ha2⟩
      next => cases hc
    next => cases hf2
  next => cases hf1

theorem posCosts_of_checks (cm : CostModel) (sem : Sem) (h1 : stepsPositive cm = true) (h2 : builtinsNonneg cm = true) :
    PosCosts cm sem :=
  posCosts_of cm sem h1 (fun b args c hc => builtinCost_nonneg cm sem h2 b args c hc)

end AikenVerif
