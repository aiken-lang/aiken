import AikenVerif.Lemmas.CekTyped
/-!
A saturated builtin applied to well-typed arguments returns a well-typed constant or one of its
arguments, and panics only if the costing guard that the machine runs first has failed.  This is one
statement about `callBuiltinCore` (`core_post`), proved by computing the weakest precondition of each
arm with the `Post` rewriting rules.
-/
namespace AikenVerif
open Gen

/-- "no panic" -/
def NP {α} (r : Res α) : Prop := r ≠ .panic

theorem NP_ok {α} (a : α) : NP (Res.ok a) := by intro h; cases h
theorem NP_pure {α} (a : α) : NP (pure a : Res α) := by intro h; cases h
theorem NP_err {α} : NP (Res.err : Res α) := by intro h; cases h
theorem NP_unm {α} : NP (Res.unmodelled : Res α) := by intro h; cases h
theorem NP_ite {α} {c : Prop} [Decidable c] {x y : Res α} (hx : NP x) (hy : NP y) : NP (if c then x else y) := by
  split
  · exact hx
  · exact hy
theorem NP_bind {α β} {x : Res α} {f : α → Res β} (hx : NP x) (hf : ∀ a, x = .ok a → NP (f a)) : NP (x >>= f) := by
  cases x with
  | ok a => exact hf a rfl
  | err => intro h; cases h
  | panic => exact absurd rfl hx
  | unmodelled => intro h; cases h

namespace Res
variable {α β : Type} {P : α → Prop} {Q : β → Prop} {pan : Prop}

/-- `P` holds of the result; `pan` is what may be assumed when the computation panics. -/
def Post (P : α → Prop) (pan : Prop) : Res α → Prop
  | .ok a => P a
  | .panic => pan
  | _ => True

theorem ok_bind (a : α) (f : α → Res β) : (Res.ok a >>= f) = f a := rfl

theorem Post.ok_iff {a : α} : Post P pan (.ok a) ↔ P a := Iff.rfl
theorem Post.pure_iff {a : α} : Post P pan (pure a) ↔ P a := Iff.rfl
theorem Post.err_iff : Post P pan .err ↔ True := Iff.rfl
theorem Post.unmodelled_iff : Post P pan .unmodelled ↔ True := Iff.rfl
theorem Post.panic_iff : Post P pan .panic ↔ pan := Iff.rfl

theorem Post.bind_iff {x : Res α} {f : α → Res β} :
    Post Q pan (x >>= f) ↔ Post (fun a => Post Q pan (f a)) pan x := by
  cases x <;> exact Iff.rfl

theorem Post.ite_iff {c : Prop} [Decidable c] {x y : Res α} :
    Post P pan (if c then x else y) ↔ (c → Post P pan x) ∧ (¬c → Post P pan y) := by
  split <;> simp [*]

theorem Post.of_np {r : Res α} (h : NP r) : Post (fun _ => True) pan r := by
  cases r <;> first | trivial | exact absurd rfl h

end Res
open Res

/-! What each `unwrap_*` of `value.rs` lets through. -/
namespace Value
variable {pan : Prop} {v : Value}

theorem post_unwrapConstant {P : Const → Prop} : Post P pan v.unwrapConstant ↔ ∀ c, v = .con c → P c := by
  unfold unwrapConstant; split <;> simp_all [Post]
theorem post_unwrapInteger {P : Int → Prop} : Post P pan v.unwrapInteger ↔ ∀ n, v = .con (.integer n) → P n := by
  unfold unwrapInteger; split <;> simp_all [Post]
theorem post_unwrapByteString {P : Bytes → Prop} :
    Post P pan v.unwrapByteString ↔ ∀ b, v = .con (.bytestring b) → P b := by
  unfold unwrapByteString; split <;> simp_all [Post]
theorem post_unwrapString {P : List Char → Prop} : Post P pan v.unwrapString ↔ ∀ s, v = .con (.string s) → P s := by
  unfold unwrapString; split <;> simp_all [Post]
theorem post_unwrapBool {P : Bool → Prop} : Post P pan v.unwrapBool ↔ ∀ b, v = .con (.bool b) → P b := by
  unfold unwrapBool; split <;> simp_all [Post]
theorem post_unwrapUnit {P : Unit → Prop} : Post P pan v.unwrapUnit ↔ (v = .con .unit → P ()) := by
  unfold unwrapUnit; split <;> simp_all [Post]
theorem post_unwrapPair {P : Ty × Ty × Const × Const → Prop} :
    Post P pan v.unwrapPair ↔ ∀ a b x y, v = .con (.pair a b x y) → P (a, b, x, y) := by
  unfold unwrapPair; split <;> simp_all [Post]
  exact ⟨fun h _ _ _ _ ha hb hx hy => by subst ha hb hx hy; exact h, fun h => h _ _ _ _ rfl rfl rfl rfl⟩
theorem post_unwrapList {P : Ty × List Const → Prop} :
    Post P pan v.unwrapList ↔ ∀ t xs, v = .con (.list t xs) → P (t, xs) := by
  unfold unwrapList; split <;> simp_all [Post]
theorem post_unwrapData {P : Data → Prop} : Post P pan v.unwrapData ↔ ∀ d, v = .con (.data d) → P d := by
  unfold unwrapData; split <;> simp_all [Post]
theorem post_unwrapDataList {P : List Const → Prop} :
    Post P pan v.unwrapDataList ↔ ∀ xs, v = .con (.list .data xs) → P xs := by
  unfold unwrapDataList; split <;> simp_all [Post]
theorem post_unwrapIntList {P : List Const → Prop} :
    Post P pan v.unwrapIntList ↔ ∀ xs, v = .con (.list .integer xs) → P xs := by
  unfold unwrapIntList; split <;> simp_all [Post]

theorem unwrapInteger_np (v : Value) : NP v.unwrapInteger := by
  unfold unwrapInteger; split <;> intro h <;> cases h
theorem unwrapList_np (v : Value) : NP v.unwrapList := by
  unfold unwrapList; split <;> intro h <;> cases h

end Value

/-! The loops over list constants reach their `unreachable!()` arm only on an ill-typed list. -/

theorem dataItems_np (l : List Const) (h : Const.wtList .data l = true) : NP (dataItems l) := by
  induction l with
  | nil => exact NP_ok _
  | cons c cs ih =>
    simp only [Const.wtList, Bool.and_eq_true, beq_iff_eq] at h
    obtain ⟨⟨hty, _⟩, hcs⟩ := h
    cases c <;> simp only [Const.ty] at hty <;> try cases hty
    simp only [dataItems]
    exact NP_bind (ih hcs) fun _ _ => NP_pure _

theorem pairItems_np (l : List Const) (h : Const.wtList (.pair .data .data) l = true) : NP (pairItems l) := by
  induction l with
  | nil => exact NP_ok _
  | cons c cs ih =>
    simp only [Const.wtList, Bool.and_eq_true, beq_iff_eq] at h
    obtain ⟨⟨hty, hwt⟩, hcs⟩ := h
    cases c <;> simp only [Const.ty] at hty <;> try cases hty
    rename_i x y
    simp only [Const.wt, Bool.and_eq_true, beq_iff_eq] at hwt
    obtain ⟨⟨⟨hx, hy⟩, _⟩, _⟩ := hwt
    cases x <;> simp only [Const.ty] at hx <;> try cases hx
    cases y <;> simp only [Const.ty] at hy <;> try cases hy
    simp only [pairItems]
    exact NP_bind (ih hcs) fun _ _ => NP_pure _

theorem writeBitsLoop_np (set : Bool) (l : List Const) (h : Const.wtList .integer l = true) :
    ∀ bytes, NP (writeBitsLoop set l bytes) := by
  induction l with
  | nil => intro bytes; exact NP_ok _
  | cons c cs ih =>
    intro bytes
    simp only [Const.wtList, Bool.and_eq_true, beq_iff_eq] at h
    obtain ⟨⟨hty, _⟩, hcs⟩ := h
    cases c <;> simp only [Const.ty] at hty <;> try cases hty
    simp only [writeBitsLoop]
    split
    · exact NP_err
    · exact ih hcs _

theorem expMod_np (b e m : Int) : NP (expMod b e m) := by
  unfold expMod
  refine NP_ite NP_err (NP_ite (NP_ok _) (NP_ite NP_err (NP_ite NP_err (NP_ite ?_ (NP_ok _)))))
  cases modularInverse b m with
  | none => exact NP_err
  | some inv => exact NP_ok _

theorem costAsSize_ok_bounds {b : Builtin} {v : Value} {x : Int} (h : costAsSize b v = .ok x) :
    ∃ size, v = .con (.integer size) ∧ 0 ≤ size ∧ size ≤ 8192 := by
  unfold costAsSize at h
  split at h
  · rename_i size
    split at h
    · split at h <;> cases h
    · rename_i hc
      simp only [Bool.or_eq_true, decide_eq_true_eq, not_or, Int.not_lt] at hc
      exact ⟨size, rfl, by omega, by omega⟩
  · cases h

theorem runPre_ok_mem (b : Builtin) (args : List Value) : ∀ (ps : List Pre),
    runPre b args ps = .ok () → ∀ p ∈ ps, preStep b args p = .ok () := by
  intro ps
  induction ps with
  | nil => intro _ p hp; cases hp
  | cons q qs ih =>
    intro h p hp
    simp only [runPre] at h
    cases hq : preStep b args q with
    | ok u =>
      rw [hq] at h
      rcases List.mem_cons.1 hp with rfl | hp'
      · exact hq
      · exact ih h p hp'
    | _ => rw [hq] at h; cases h

theorem fitsU64_of_asSize {b : Builtin} {args : List Value} {i : Nat} {n : Int}
    (hp : preStep b args (.asSize i) = .ok ()) (hi : args[i]? = some (.con (.integer n))) :
    fitsU64 n = true := by
  simp only [preStep, getArg, hi, ok_bind] at hp
  cases hc : costAsSize b (.con (.integer n)) with
  | ok x =>
    obtain ⟨_, hv, h0, h1⟩ := costAsSize_ok_bounds hc
    cases hv
    simp only [fitsU64, Bool.and_eq_true, decide_eq_true_eq]
    omega
  | _ => rw [hc] at hp; cases hp

theorem len_eq_one {α} {l : List α} (h : l.length = 1) : ∃ x, l = [x] := by
  match l, h with
  | [x], _ => exact ⟨x, rfl⟩
theorem len_eq_two {α} {l : List α} (h : l.length = 2) : ∃ x y, l = [x, y] := by
  match l, h with
  | [x, y], _ => exact ⟨x, y, rfl⟩
theorem len_eq_three {α} {l : List α} (h : l.length = 3) : ∃ x y z, l = [x, y, z] := by
  match l, h with
  | [x, y, z], _ => exact ⟨x, y, z, rfl⟩
theorem len_eq_six {α} {l : List α} (h : l.length = 6) : ∃ a b c d e f, l = [a, b, c, d, e, f] := by
  match l, h with
  | [a, b, c, d, e, f], _ => exact ⟨a, b, c, d, e, f, rfl⟩

/-- what a builtin may return: a well-typed constant, or the index of one of its arguments -/
def BOut.Good (args : List Value) : BOut → Prop
  | .con c => c.wt = true
  | .arg i => i < args.length

theorem core_post (sem : Sem) (b : Builtin) (args : List Value) (hl : args.length = b.arity)
    (hw : Value.wtList args = true) :
    Post (BOut.Good args) (runPre b args (costSpec b).pre ≠ .ok ()) (callBuiltinCore sem b args) := by
  -- the argument list has the builtin's arity: 1, 2, 3 or 6 elements
  cases b <;>
    (first
      | obtain ⟨x, rfl⟩ := len_eq_one hl
      | obtain ⟨x, y, rfl⟩ := len_eq_two hl
      | obtain ⟨x, y, z, rfl⟩ := len_eq_three hl
      | obtain ⟨a, b, c, d, e, f, rfl⟩ := len_eq_six hl) <;>
    dsimp only [callBuiltinCore, getArgB, List.getElem?_cons_zero, List.getElem?_cons_succ, ok_bind, Res.bind]
  -- the destructors of `Data` match on the argument directly
  case unConstrData | unMapData | unListData | unIData | unBData =>
    split <;> simp only [Post.pure_iff, Post.err_iff, BOut.Good, Const.wt, Const.ty,
      Const.wtList_map_data, Const.wtList_map_pairs, beq_self_eq_true, Bool.and_self]
  -- most arms unwrap their arguments and then fail, pass an argument on, or return a constant of a
  -- base type: their weakest precondition is `True`
  all_goals simp only [Post.bind_iff, Post.ite_iff, Post.pure_iff, Post.ok_iff, Post.err_iff, Post.panic_iff,
    Post.unmodelled_iff, Value.post_unwrapConstant, Value.post_unwrapInteger, Value.post_unwrapByteString, Value.post_unwrapString,
    Value.post_unwrapBool, Value.post_unwrapUnit, Value.post_unwrapPair, Value.post_unwrapList, Value.post_unwrapData,
    Value.post_unwrapDataList, Value.post_unwrapIntList, BOut.Good, Const.wt, Const.wtList,
    List.length_cons, List.length_nil, Nat.zero_add, Nat.reduceAdd, Nat.reduceLT, implies_true, and_self]
  -- what is left needs the arguments well-typed, a bound established by a guard, or a loop lemma
  -- (`trace_state` here shows the weakest precondition of every arm)
  case decodeUtf8 => intro _ _; split <;> trivial
  case chooseData => intro d _; cases d <;> simp only [Post.ok_iff, BOut.Good, List.length_cons, List.length_nil, Nat.reduceAdd, Nat.reduceLT]
  case mkPairData => intro _ _ _ _; rfl
  case fstPair =>
    intro a b x y rfl
    simp only [Value.wtList, Value.wt, Const.wt, Bool.and_eq_true] at hw
    exact hw.1.1.2
  case sndPair =>
    intro a b x y rfl
    simp only [Value.wtList, Value.wt, Const.wt, Bool.and_eq_true] at hw
    exact hw.1.2
  case mkCons =>
    intro c rfl t xs rfl
    simp only [Value.wtList, Value.wt, Const.wt, Bool.and_eq_true] at hw
    refine ⟨trivial, fun h => ?_⟩
    simp only [Bool.and_eq_true, beq_iff_eq]
    exact ⟨⟨(Decidable.not_not.1 h).symm, hw.1⟩, hw.2.1⟩
  case headList =>
    intro t xs rfl
    simp only [Value.wtList, Value.wt, Const.wt, Bool.and_eq_true] at hw
    cases xs with
    | nil => trivial
    | cons c cs => simp only [Const.wtList, Bool.and_eq_true] at hw; exact hw.1.1.2
  case tailList =>
    intro t xs rfl
    simp only [Value.wtList, Value.wt, Const.wt, Bool.and_eq_true] at hw
    cases xs with
    | nil => trivial
    | cons c cs => simp only [Const.wtList, Bool.and_eq_true] at hw; exact hw.1.2
  case dropList =>
    intro n _ t xs rfl
    simp only [Value.wtList, Value.wt, Const.wt, Bool.and_eq_true] at hw
    split
    · exact hw.2.1
    · exact Const.wtList_drop t xs _ hw.2.1
  case constrData =>
    intro n _ xs rfl
    simp only [Value.wtList, Value.wt, Const.wt, Bool.and_eq_true] at hw
    exact .of_np (dataItems_np xs hw.2.1)
  case listData =>
    intro xs rfl
    simp only [Value.wtList, Value.wt, Const.wt, Bool.and_eq_true] at hw
    exact .of_np (dataItems_np xs hw.1)
  case mapData =>
    intro t xs rfl
    simp only [Value.wtList, Value.wt, Const.wt, Bool.and_eq_true] at hw
    refine ⟨trivial, fun h => ?_⟩
    cases Decidable.not_not.1 h
    exact .of_np (pairItems_np xs hw.1)
  case writeBits =>
    intro bs _ xs rfl set _
    simp only [Value.wtList, Value.wt, Const.wt, Bool.and_eq_true] at hw
    exact .of_np (writeBitsLoop_np set xs hw.2.1 bs)
  case expModInteger => intro n _ e _ m _; exact .of_np (expMod_np n e m)
  case indexByteString =>
    intro bs _ i _
    refine ⟨fun hc => ?_, trivial⟩
    simp only [Bool.and_eq_true, decide_eq_true_eq] at hc
    rw [List.getElem?_eq_getElem (by omega : i.toNat < bs.length)]
    trivial
  case readBit =>
    intro bs _ i _
    refine ⟨trivial, fun hne => ⟨trivial, fun hc => ?_⟩⟩
    simp only [Bool.or_eq_true, decide_eq_true_eq, not_or, Int.not_lt] at hc
    have hlen : 0 < bs.length := by cases bs <;> simp at hne ⊢
    rw [List.getElem?_eq_getElem (by omega : bs.length - 1 - i.toNat / 8 < bs.length)]
    trivial
  -- `cost_as_size` has bounded the size before the builtin converts it to `usize`
  case integerToByteString =>
    intro be _ size rfl input _
    refine ⟨trivial, fun _ => ⟨trivial, fun _ => ⟨fun hfit hpre => ?_, trivial⟩⟩⟩
    rw [fitsU64_of_asSize (runPre_ok_mem _ _ _ hpre _ (.head _)) rfl] at hfit
    cases hfit
  case replicateByte =>
    intro size rfl byte _
    refine ⟨fun hfit hpre => ?_, trivial⟩
    rw [fitsU64_of_asSize (runPre_ok_mem _ _ _ hpre _ (.head _)) rfl] at hfit
    cases hfit

theorem callBuiltin_np (sem : Sem) (b : Builtin) (args : List Value) (hl : args.length = b.arity)
    (hw : Value.wtList args = true) (hpre : runPre b args (costSpec b).pre = .ok ()) :
    NP (callBuiltin sem b args) := by
  have h := core_post sem b args hl hw
  unfold callBuiltin
  cases hc : callBuiltinCore sem b args with
  | ok o =>
    rw [hc] at h
    cases o with
    | con c => exact NP_ok _
    | arg i =>
      simp only [Res.bind, getArgB, List.getElem?_eq_getElem (show i < args.length from h)]
      exact NP_ok _
  | panic => rw [hc] at h; exact absurd hpre h
  | _ => intro h; cases h

theorem callBuiltin_wt (sem : Sem) (b : Builtin) (args : List Value) (v : Value) (hl : args.length = b.arity)
    (hw : Value.wtList args = true) (h : callBuiltin sem b args = .ok v) : v.wt = true := by
  have hcore := core_post sem b args hl hw
  unfold callBuiltin at h
  cases hc : callBuiltinCore sem b args with
  | ok o =>
    rw [hc] at h hcore
    cases o with
    | con c => cases h; exact hcore
    | arg i =>
      simp only [Res.bind, getArgB, List.getElem?_eq_getElem (show i < args.length from hcore)] at h
      cases h
      exact (Value.wtList_iff args).1 hw _ (List.getElem_mem _)
  | _ => rw [hc] at h; cases h

/-! The two halves of `BOut.Good` as predicates of their own, with their introduction rules.  The machine
proofs use `core_post` itself. -/

def ArgOK (args : List Value) (r : Res BOut) : Prop := ∀ i, r = .ok (.arg i) → i < args.length

theorem ArgOK_bind {α} {args : List Value} {x : Res α} {f : α → Res BOut}
    (hf : ∀ a, x = .ok a → ArgOK args (f a)) : ArgOK args (x >>= f) := by
  cases x with
  | ok a => exact hf a rfl
  | _ => intro i h; cases h

theorem ArgOK_bind' {α} {args : List Value} {x : Res α} {f : α → Res BOut}
    (hf : ∀ a, x = .ok a → ArgOK args (f a)) : ArgOK args (x.bind f) := ArgOK_bind hf

theorem ArgOK_con {args : List Value} (c : Const) : ArgOK args (.ok (.con c)) := by intro i h; cases h
theorem ArgOK_pure {args : List Value} (c : Const) : ArgOK args (pure (.con c)) := by intro i h; cases h
theorem ArgOK_err {args : List Value} : ArgOK args .err := by intro i h; cases h
theorem ArgOK_panic {args : List Value} : ArgOK args .panic := by intro i h; cases h
theorem ArgOK_unm {args : List Value} : ArgOK args .unmodelled := by intro i h; cases h
theorem ArgOK_arg {args : List Value} {i : Nat} (h : i < args.length) : ArgOK args (.ok (.arg i)) := by
  intro j hj; cases hj; exact h

def OutWT (r : Res BOut) : Prop := ∀ c, r = .ok (.con c) → c.wt = true

theorem OutWT_bind {α} {x : Res α} {f : α → Res BOut} (hf : ∀ a, x = .ok a → OutWT (f a)) : OutWT (x >>= f) := by
  cases x with
  | ok a => exact hf a rfl
  | _ => intro c h; cases h
theorem OutWT_bind' {α} {x : Res α} {f : α → Res BOut} (hf : ∀ a, x = .ok a → OutWT (f a)) : OutWT (x.bind f) :=
  OutWT_bind hf
theorem OutWT_con {c : Const} (h : c.wt = true) : OutWT (.ok (.con c)) := by intro c' h'; cases h'; exact h
theorem OutWT_pure {c : Const} (h : c.wt = true) : OutWT (pure (.con c)) := by intro c' h'; cases h'; exact h
theorem OutWT_arg (i : Nat) : OutWT (.ok (.arg i)) := by intro c h; cases h
theorem OutWT_err : OutWT .err := by intro c h; cases h
theorem OutWT_panic : OutWT .panic := by intro c h; cases h
theorem OutWT_unm : OutWT .unmodelled := by intro c h; cases h

theorem core_argOK_outWT (sem : Sem) (b : Builtin) (args : List Value) (hl : args.length = b.arity)
    (hw : Value.wtList args = true) :
    ArgOK args (callBuiltinCore sem b args) ∧ OutWT (callBuiltinCore sem b args) := by
  have h := core_post sem b args hl hw
  exact ⟨fun _ hr => by rw [hr] at h; exact h, fun _ hr => by rw [hr] at h; exact h⟩

end AikenVerif
