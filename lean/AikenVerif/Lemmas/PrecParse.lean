import AikenVerif.Lemmas.Prec
/-!
C13, part 2 of 3: the parser side.  `stops h rest` = the continuation `rest`
cannot be absorbed by any loop of the tower up to height `h`.
-/
namespace AikenVerif.Prec
open AikenVerif.Gen.Prec

def stops (h : Nat) : List Tok → Prop
  | .op b :: _ => h < b.tower + 1
  | .pipe :: _ => h < towerLevels + 1
  | _ => True

theorem stops_mono {h h' : Nat} (hle : h ≤ h') (ts : List Tok) (hs : stops h' ts) : stops h ts := by
  cases ts with
  | nil => trivial
  | cons t tl =>
    cases t <;> simp only [stops] at hs ⊢ <;> omega

theorem Expr.size_pos (e : Expr) : 0 < e.size := by
  cases e <;> simp [Expr.size]

/-! ## `repeated()` -/

theorem tailP_stop {σ : Type} (sep : Tok → Option σ) (next : Parser) (g : Nat) (ts : List Tok)
    (h : ∀ t tl, ts = t :: tl → sep t = none) : tailP sep next g ts = ([], ts) := by
  cases g with
  | zero => simp [tailP]
  | succ g =>
    cases ts with
    | nil => simp [tailP]
    | cons t tl =>
      have := h t tl rfl
      simp [tailP, this]

/-- A printed item list followed by a rest at which the loop stops is read back as exactly those items
(the fuel is the length of the input, as the parsers pass it). -/
theorem tailP_flat {σ : Type} (sep : Tok → Option σ) (next : Parser) (sepTok : σ → Tok)
    (rd : Expr → List Tok) (Stop : List Tok → Prop) (items : List (σ × Expr)) (rest : List Tok)
    (h1 : ∀ it ∈ items, sep (sepTok it.1) = some it.1)
    (h2 : ∀ it ∈ items, ∀ ts, Stop (sepTok it.1 :: ts))
    (h3 : ∀ it ∈ items, ∀ rest', Stop rest' → next (rd it.2 ++ rest') = some (it.2, rest'))
    (hs : Stop rest) (hr : ∀ t tl, rest = t :: tl → sep t = none) :
    tailP sep next (items.flatMap (fun it => sepTok it.1 :: rd it.2) ++ rest).length
      (items.flatMap (fun it => sepTok it.1 :: rd it.2) ++ rest) = (items, rest) := by
  suffices H : ∀ g, (items.flatMap (fun it => sepTok it.1 :: rd it.2) ++ rest).length ≤ g →
      tailP sep next g (items.flatMap (fun it => sepTok it.1 :: rd it.2) ++ rest) = (items, rest) from
    H _ (Nat.le_refl _)
  induction items with
  | nil => intro g _; simpa using tailP_stop sep next g rest hr
  | cons it more ih =>
    intro g hg
    have ih := ih (fun x hx => h1 x (List.mem_cons_of_mem _ hx))
      (fun x hx => h2 x (List.mem_cons_of_mem _ hx)) (fun x hx => h3 x (List.mem_cons_of_mem _ hx))
    have hstop : Stop (more.flatMap (fun it => sepTok it.1 :: rd it.2) ++ rest) := by
      cases more with
      | nil => simpa using hs
      | cons m ms => exact h2 m (by simp) _
    have hn := h3 it List.mem_cons_self _ hstop
    have hsep := h1 it List.mem_cons_self
    simp only [List.flatMap_cons, List.cons_append, List.append_assoc, List.length_cons,
      List.length_append] at hg ⊢
    cases g with
    | zero => omega
    | succ g =>
      rw [tailP, hsep]
      simp only [hn, ih g (by rw [List.length_append]; omega)]

/-! ## what stops a loop of the tower -/

theorem levelSep_none_of_stops {t : Nat} {rest : List Tok} (hs : stops (t + 1) rest) :
    ∀ tk tl, rest = tk :: tl → levelSep t tk = none := by
  intro tk tl h
  subst h
  cases tk with
  | op b =>
    simp only [stops] at hs
    simp only [levelSep]
    rw [if_neg (by omega)]
  | _ => rfl

theorem pipeSep_none_of_stops {rest : List Tok} (hs : stops (towerLevels + 1) rest) :
    ∀ tk tl, rest = tk :: tl → pipeSep tk = none := by
  intro tk tl h
  subst h
  cases tk with
  | pipe => simp [stops] at hs
  | _ => rfl

/-! ## lifting a parse through the tower -/

theorem levelP_of_next (next : Parser) (t : Nat) (ts rest : List Tok) (e : Expr)
    (hn : next ts = some (e, rest)) (hs : stops (t + 1) rest) : levelP next t ts = some (e, rest) := by
  have hstop : tailP (levelSep t) next rest.length rest = ([], rest) :=
    tailP_stop _ _ _ _ (levelSep_none_of_stops hs)
  unfold levelP
  simp only [hn, hstop]
  cases levelRight t <;> simp [combineLeft, combineRight]

theorem towerP_lift (rec : Parser) (ts rest : List Tok) (e : Expr) {h h' : Nat} (hle : h ≤ h')
    (hp : towerP rec h ts = some (e, rest)) (hs : stops h' rest) : towerP rec h' ts = some (e, rest) := by
  induction hle with
  | refl => exact hp
  | step _ ih => exact levelP_of_next _ _ _ _ _ (ih (stops_mono (Nat.le_succ _) _ hs)) hs

theorem pipeP_of_next (next : Parser) (ts rest : List Tok) (e : Expr)
    (hn : next ts = some (e, rest)) (hs : stops (towerLevels + 1) rest) : pipeP next ts = some (e, rest) := by
  have hstop : tailP pipeSep next rest.length rest = ([], rest) :=
    tailP_stop _ _ _ _ (pipeSep_none_of_stops hs)
  unfold pipeP
  simp [hn, hstop]

end AikenVerif.Prec
