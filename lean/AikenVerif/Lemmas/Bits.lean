import AikenVerif.Model.Builtin
/-!
Bit-level lemmas for C04: bits ↔ bytes ↔ numbers, rotation, complement and `popCount`, first set bit, bytewise zips.
The model tests bit `i` of `n` by `(n >>> i) % 2 == 1`, which is `Nat.testBit`: setting, clearing and complementing a
bit follow from core's `testBit` lemmas.  (M-FLAT has twins of `natBits`/`bitsToNat`/`byteBits` that are not the same
terms, `Lemmas/FlatPrim.lean`.)
-/
namespace AikenVerif

theorem bit_eq_testBit (n i : Nat) : ((n >>> i) % 2 == 1) = n.testBit i := by
  rw [Nat.testBit_eq_decide_div_mod_eq, Nat.shiftRight_eq_div_pow]
  rfl

namespace Bytes'

/-- the `k` low bits of `n`, most significant first -/
def natBits : Nat → Nat → List Bool
  | 0, _ => []
  | k + 1, n => natBits k (n / 2) ++ [n % 2 == 1]

theorem natBits_eight (n : Nat) :
    [7, 6, 5, 4, 3, 2, 1, 0].map (fun i => (n >>> i) % 2 == 1) = natBits 8 n := by
  simp only [natBits, List.map_cons, List.map_nil, List.nil_append, List.cons_append, Nat.shiftRight_succ,
    Nat.shiftRight_zero]

theorem bitsToNat_concat (l : List Bool) (b : Bool) :
    bitsToNat (l ++ [b]) = 2 * bitsToNat l + if b then 1 else 0 :=
  List.foldl_append.trans rfl

theorem bitsToNat_natBits : ∀ k n : Nat, bitsToNat (natBits k n) = n % 2 ^ k
  | 0, n => by rw [Nat.pow_zero, Nat.mod_one]; rfl
  | k + 1, n => by
    rw [natBits, bitsToNat_concat, bitsToNat_natBits k, Nat.pow_succ', Nat.mod_mul, Nat.add_comm]
    rcases Nat.mod_two_eq_zero_or_one n with h | h <;> rw [h] <;> rfl

theorem natBits_succ_bit (k n : Nat) (b : Bool) :
    natBits (k + 1) (2 * n + if b then 1 else 0) = natBits k n ++ [b] := by
  rw [natBits]
  cases b
  · rw [if_neg Bool.false_ne_true, Nat.add_zero, Nat.mul_div_cancel_left _ (by decide), Nat.mul_mod_right]
    rfl
  · rw [if_pos rfl, Nat.mul_add_div (by decide), Nat.add_zero, Nat.mul_add_mod]
    rfl

/-- both sides grow at the end of the list, so the induction is over the reversed list -/
theorem natBits_bitsToNat (l : List Bool) : natBits l.length (bitsToNat l) = l := by
  rw [← l.reverse_reverse]
  induction l.reverse with
  | nil => rfl
  | cons b r ih =>
    rw [List.reverse_cons, bitsToNat_concat, List.length_append, List.length_singleton, natBits_succ_bit, ih]

theorem bitsToNat_byteBits_all : ∀ n, n < 256 →
    bitsToNat ([7, 6, 5, 4, 3, 2, 1, 0].map (fun i => (n >>> i) % 2 == 1)) = n :=
  fun n h => by rw [natBits_eight, bitsToNat_natBits, Nat.mod_eq_of_lt h]

theorem byteBits_ofNat_bitsToNat (a b c d e f g h : Bool) :
    byteBits (UInt8.ofNat (bitsToNat [a, b, c, d, e, f, g, h])) = [a, b, c, d, e, f, g, h] := by
  have hl : natBits 8 (bitsToNat [a, b, c, d, e, f, g, h]) = [a, b, c, d, e, f, g, h] :=
    natBits_bitsToNat [a, b, c, d, e, f, g, h]
  have hm := bitsToNat_natBits 8 (bitsToNat [a, b, c, d, e, f, g, h])
  rw [hl] at hm
  rw [byteBits, natBits_eight, UInt8.toNat_ofNat', ← hm, hl]

theorem ofNat_bitsToNat_byteBits (b : UInt8) : UInt8.ofNat (bitsToNat (byteBits b)) = b := by
  rw [byteBits, bitsToNat_byteBits_all b.toNat (UInt8.toNat_lt b), UInt8.ofNat_toNat]

theorem toBits_cons (b : UInt8) (bs : Bytes) : toBits (b :: bs) = byteBits b ++ toBits bs :=
  List.flatMap_cons

theorem ofBits_toBits : ∀ bs : Bytes, ofBits (toBits bs) = bs
  | [] => rfl
  | b :: bs => by
    rw [toBits_cons]
    show UInt8.ofNat (bitsToNat (byteBits b)) :: ofBits (toBits bs) = b :: bs
    rw [ofNat_bitsToNat_byteBits, ofBits_toBits bs]

theorem toBits_length : ∀ bs : Bytes, (toBits bs).length = 8 * bs.length
  | [] => rfl
  | b :: bs => by
    rw [toBits_cons, List.length_append, toBits_length bs, List.length_cons, Nat.mul_succ, Nat.add_comm]
    rfl

theorem toBits_ofBits : ∀ (k : Nat) (l : List Bool), l.length = 8 * k →
    toBits (ofBits l) = l ∧ (ofBits l).length = k
  | 0, l, h => by
    have : l = [] := List.length_eq_zero_iff.mp h
    subst this
    exact ⟨rfl, rfl⟩
  | k + 1, a :: b :: c :: d :: e :: f :: g :: hh :: rest, h => by
    have ih := toBits_ofBits k rest (Nat.add_right_cancel (show rest.length + 8 = 8 * k + 8 from h))
    rw [ofBits, toBits_cons, byteBits_ofNat_bitsToNat, ih.1, List.length_cons, ih.2]
    exact ⟨rfl, rfl⟩
  | k + 1, [], h | k + 1, [_], h | k + 1, [_, _], h | k + 1, [_, _, _], h | k + 1, [_, _, _, _], h
  | k + 1, [_, _, _, _, _], h | k + 1, [_, _, _, _, _, _], h | k + 1, [_, _, _, _, _, _, _], h => by
    cases h

end Bytes'
open Bytes'

def rotBits (l : List Bool) (n : Nat) : List Bool := l.drop n ++ l.take n

theorem rotBits_length (l : List Bool) (n : Nat) : (rotBits l n).length = l.length := by
  rw [rotBits, List.length_append, Nat.add_comm, ← List.length_append, List.take_append_drop]

theorem rotBits_zero (l : List Bool) : rotBits l 0 = l :=
  List.append_nil l

theorem rotBits_inverse (l : List Bool) (n m : Nat) (h : n + m = l.length) : rotBits (rotBits l n) m = l := by
  have hm : m = (l.drop n).length := by rw [List.length_drop, ← h, Nat.add_sub_cancel_left]
  rw [rotBits, rotBits, hm, List.drop_left, List.take_left, List.take_append_drop]

/-- what `rotateByteString` returns (the model of `runtime.rs`, restated as a function) -/
def rotl (bs : Bytes) (k : Int) : Bytes :=
  if bs.isEmpty then bs else ofBits (rotBits (toBits bs) (k.fmod (bs.length * 8 : Nat)).toNat)

theorem rotl_length (bs : Bytes) (k : Int) : (rotl bs k).length = bs.length := by
  unfold rotl
  split
  · rfl
  · exact (toBits_ofBits bs.length _ (by rw [rotBits_length, toBits_length])).2

theorem fmod_neg_bounds (a b : Int) (h : b < 0) : b < a.fmod b ∧ a.fmod b ≤ 0 := by
  have hb : 0 < -b := Int.neg_pos_of_neg h
  have h1 := Int.fmod_nonneg_of_pos (-a) hb
  have h2 := Int.fmod_lt_of_pos (-a) hb
  rw [Int.neg_fmod_neg] at h1 h2
  exact ⟨Int.lt_of_neg_lt_neg h2, Int.nonpos_of_neg_nonneg h1⟩

theorem fmod_neg_toNat (k : Int) (L : Nat) (hL : 0 < L) :
    (k.fmod L).toNat = 0 ∧ ((-k).fmod L).toNat = 0 ∨ (k.fmod L).toNat + ((-k).fmod L).toNat = L := by
  have hL' : (0 : Int) < L := Int.natCast_pos.mpr hL
  rw [Int.fmod_eq_emod_of_nonneg _ (Int.natCast_nonneg L), Int.fmod_eq_emod_of_nonneg _ (Int.natCast_nonneg L),
    Int.neg_emod]
  by_cases hd : (L : Int) ∣ k
  · rw [if_pos hd, Int.emod_eq_zero_of_dvd hd]
    exact .inl ⟨rfl, rfl⟩
  · have h0 := Int.emod_nonneg k (Int.ne_of_gt hL')
    have h1 := Int.emod_lt_of_pos k hL'
    rw [if_neg hd, Int.natAbs_natCast]
    omega

theorem rotl_inverse (bs : Bytes) (k : Int) : rotl (rotl bs k) (-k) = bs := by
  by_cases hb : bs = []
  · subst hb; rfl
  · have hpos : 0 < bs.length := List.length_pos_iff.mpr hb
    have hne : bs.isEmpty = false := List.isEmpty_eq_false_iff.mpr hb
    have hne' : (rotl bs k).isEmpty = false := by
      rw [List.isEmpty_eq_false_iff, ← List.length_pos_iff, rotl_length]; exact hpos
    have hlen : (rotBits (toBits bs) (k.fmod (bs.length * 8 : Nat)).toNat).length = 8 * bs.length := by
      rw [rotBits_length, toBits_length]
    rw [rotl, hne', rotl_length, rotl, hne]
    simp only [Bool.false_eq_true, if_false]
    rw [(toBits_ofBits bs.length _ hlen).1]
    rcases fmod_neg_toNat k (bs.length * 8) (Nat.mul_pos hpos (by decide)) with ⟨h1, h2⟩ | h
    · rw [h1, h2, rotBits_zero, rotBits_zero, ofBits_toBits]
    · rw [rotBits_inverse _ _ _ (by rw [toBits_length]; omega), ofBits_toBits]

theorem bit_set_clear (b : UInt8) (j : Nat) (hj : j < 8) :
    (((b ||| UInt8.ofNat (1 <<< j)).toNat >>> j) % 2 == 1) = true ∧
    (((b &&& ~~~ UInt8.ofNat (1 <<< j)).toNat >>> j) % 2 == 1) = false := by
  have hlt : 2 ^ j < 2 ^ 8 := Nat.pow_lt_pow_right (by decide) hj
  have h1 : (UInt8.ofNat (1 <<< j)).toNat = 2 ^ j := by
    rw [UInt8.toNat_ofNat', Nat.one_shiftLeft, Nat.mod_eq_of_lt hlt]
  -- the complement of the mask, in the form `Nat.testBit_two_pow_sub_succ` reads
  have h2 : UInt8.size - 1 - 2 ^ j = 2 ^ 8 - (2 ^ j + 1) := by rw [Nat.sub_sub, Nat.add_comm]
  rw [bit_eq_testBit, bit_eq_testBit, UInt8.toNat_or, UInt8.toNat_and, UInt8.toNat_not, h1, Nat.testBit_or,
    Nat.testBit_and, h2, Nat.testBit_two_pow_sub_succ hlt, Nat.testBit_two_pow_self]
  simp

theorem bit_set_clear_all : ∀ n, n < 256 → ∀ j, j < 8 →
    (((UInt8.ofNat n ||| UInt8.ofNat (1 <<< j)).toNat >>> j) % 2 == 1) = true ∧
    (((UInt8.ofNat n &&& ~~~ UInt8.ofNat (1 <<< j)).toNat >>> j) % 2 == 1) = false :=
  fun n _ j hj => bit_set_clear (UInt8.ofNat n) j hj

theorem writeBit_then_readBit (v : Bool) (bs : Bytes) (i : Int) (h0 : 0 ≤ i) (h1 : i < (bs.length * 8 : Nat)) :
    ∃ bs', writeBitsLoop v [.integer i] bs = .ok bs' ∧ bs'.length = bs.length ∧
      ∃ byte, bs'[bs'.length - 1 - i.toNat / 8]? = some byte ∧ ((byte.toNat >>> (i.toNat % 8)) % 2 == 1) = v := by
  have hc : ¬ (i < 0 ∨ i ≥ ((bs.length * 8 : Nat) : Int)) := by omega
  have hidx : bs.length - 1 - i.toNat / 8 < bs.length := by omega
  have hw : writeBitsLoop v [.integer i] bs = .ok (bs.modify (bs.length - 1 - i.toNat / 8)
      (fun b => if v then b ||| UInt8.ofNat (1 <<< (i.toNat % 8)) else b &&& (~~~ UInt8.ofNat (1 <<< (i.toNat % 8))))) := by
    simp only [writeBitsLoop, Bool.or_eq_true, decide_eq_true_eq, hc, if_false]
  refine ⟨_, hw, List.length_modify .., ?_⟩
  rw [List.length_modify, List.getElem?_modify_eq, List.getElem?_eq_getElem hidx]
  refine ⟨_, rfl, ?_⟩
  have := bit_set_clear (bs[bs.length - 1 - i.toNat / 8]) (i.toNat % 8) (Nat.mod_lt _ (by decide))
  cases v
  · exact this.2
  · exact this.1

theorem bit_compl (b : UInt8) (i : Nat) (hi : i < 8) :
    (((b ^^^ 255).toNat >>> i) % 2 == 1) = !((b.toNat >>> i) % 2 == 1) := by
  rw [bit_eq_testBit, bit_eq_testBit, UInt8.toNat_xor, Nat.testBit_xor]
  show (b.toNat.testBit i ^^ (2 ^ 8 - 1).testBit i) = _
  rw [Nat.testBit_two_pow_sub_one, decide_eq_true hi, Bool.xor_true]

theorem byteBits_compl (b : UInt8) : byteBits (b ^^^ 255) = (byteBits b).map (!·) := by
  rw [byteBits, byteBits, List.map_map]
  refine List.map_congr_left fun i hi => bit_compl b i ?_
  simp only [List.mem_cons, List.not_mem_nil, or_false] at hi
  omega

theorem countP_not_add : ∀ l : List Bool, l.countP (!·) + l.countP id = l.length
  | [] => rfl
  | b :: l => by
    have := countP_not_add l
    cases b <;> simp only [List.countP_cons, List.length_cons, id, Bool.not_false, Bool.not_true, if_true,
      Bool.false_eq_true, if_false] <;> omega

theorem popCount_compl : ∀ bs : Bytes, popCount (bs.map (· ^^^ 255)) + popCount bs = 8 * bs.length
  | [] => rfl
  | b :: rest => by
    have ih := popCount_compl rest
    have hb : (byteBits (b ^^^ 255)).countP id + (byteBits b).countP id = 8 := by
      rw [byteBits_compl, List.countP_map]
      exact countP_not_add (byteBits b)
    simp only [popCount, List.map_cons, toBits_cons, List.countP_append, List.length_cons] at *
    omega

theorem lowestSetBit_none_iff (b : UInt8) : lowestSetBit b = none ↔ b = 0 := by
  rw [lowestSetBit, List.find?_eq_none]
  constructor
  · intro h
    apply UInt8.toNat_inj.mp
    apply Nat.eq_of_testBit_eq
    intro i
    rw [UInt8.toNat_zero, Nat.zero_testBit]
    by_cases hi : i < 8
    · have := h i (by simp only [List.mem_cons, List.not_mem_nil, or_false]; omega)
      rwa [bit_eq_testBit, Bool.not_eq_true] at this
    · exact Nat.testBit_lt_two_pow
        (Nat.lt_of_lt_of_le (UInt8.toNat_lt b) (Nat.pow_le_pow_right (by decide) (Nat.le_of_not_lt hi)))
  · rintro rfl
    decide

theorem lowestSetBit_lt (b : UInt8) (k : Nat) (h : lowestSetBit b = some k) : k < 8 := by
  have := List.mem_of_find?_eq_some h
  simp only [List.mem_cons, List.not_mem_nil, or_false] at this
  omega

theorem findFirstSet_spec : ∀ (l : List UInt8) (i : Nat),
    (findFirstSet l i = -1 ↔ ∀ b ∈ l, b = 0) ∧
    (findFirstSet l i ≠ -1 → (8 * i : Int) ≤ findFirstSet l i ∧ findFirstSet l i < (8 * (i + l.length) : Nat))
  | [], i => ⟨⟨fun _ _ h => (nomatch h), fun _ => rfl⟩, fun h => absurd rfl h⟩
  | b :: rest, i => by
    have ih := findFirstSet_spec rest (i + 1)
    rw [findFirstSet, List.length_cons, List.forall_mem_cons]
    cases hb : lowestSetBit b with
    | none =>
      have hz : b = 0 := (lowestSetBit_none_iff b).mp hb
      simp only
      refine ⟨by rw [ih.1, and_iff_right hz], fun hne => ?_⟩
      have := ih.2 hne
      omega
    | some k =>
      have hk := lowestSetBit_lt b k hb
      have hnz : b ≠ 0 := fun h0 => by rw [(lowestSetBit_none_iff b).mpr h0] at hb; cases hb
      simp only
      exact ⟨⟨fun h => by omega, fun h => absurd h.1 hnz⟩, fun _ => by omega⟩

theorem zipBytes_comm (f : UInt8 → UInt8 → UInt8) (hf : ∀ a b, f a b = f b a) (pad : Bool) :
    ∀ x y : Bytes, zipBytes f pad x y = zipBytes f pad y x
  | [], [] => rfl
  | [], _ :: _ => by simp [zipBytes]
  | _ :: _, [] => by simp [zipBytes]
  | a :: as, b :: bs => by simp only [zipBytes, hf a b, zipBytes_comm f hf pad as bs]

theorem zipBytes_self (f : UInt8 → UInt8 → UInt8) (pad : Bool) : ∀ x : Bytes, zipBytes f pad x x = x.map (fun a => f a a)
  | [] => by cases pad <;> simp [zipBytes]
  | a :: as => by simp only [zipBytes, List.map_cons, zipBytes_self f pad as]

end AikenVerif
