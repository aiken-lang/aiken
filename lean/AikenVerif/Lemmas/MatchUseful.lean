import AikenVerif.Lemmas.MatchCtors
/-!
Maranget's usefulness theorem for the impl model `isUseful` (C07), over pattern *vectors*:
`isUseful M v = false` iff every well-typed value vector matched by `v` is matched by a row of `M`.
-/
namespace AikenVerif.Match

theorem isUseful_nil_matrix (v : Row) : isUseful [] v = true := by
  unfold isUseful; simp

theorem isUseful_empty {M : Matrix} (h : M.isEmpty = true) (v : Row) : isUseful M v = true := by
  unfold isUseful; simp [h]

theorem isUseful_nil_row {M : Matrix} (h : ¬ M.isEmpty = true) : isUseful M [] = false := by
  unfold isUseful; simp [h]

theorem isUseful_ctor {M : Matrix} (h : ¬ M.isEmpty = true) (c : Nat) (alts : Alts) (args rest : List Pat) :
    isUseful M (.ctor c alts args :: rest) = isUseful (specCtor c args.length M) (args ++ rest) := by
  rw [isUseful]; simp [h]

theorem isUseful_lit {M : Matrix} (h : ¬ M.isEmpty = true) (l : Lit) (rest : List Pat) :
    isUseful M (.lit l :: rest) = isUseful (specLit l M) rest := by
  rw [isUseful]; simp [h]

theorem isUseful_wild_none {M : Matrix} (h : ¬ M.isEmpty = true) (rest : List Pat)
    (hc : isComplete M = none) :
    isUseful M (.wild :: rest) = isUseful (specWild M) rest := by
  rw [isUseful, if_neg h]
  split
  · rfl
  · rename_i alts h'; rw [hc] at h'; cases h'

theorem isUseful_wild_some {M : Matrix} (h : ¬ M.isEmpty = true) (rest : List Pat) {alts : Alts}
    (hc : isComplete M = some alts) :
    isUseful M (.wild :: rest) =
      alts.any (fun alt => isUseful (specCtor alt.1 alt.2 M) (wilds alt.2 ++ rest)) := by
  rw [isUseful, if_neg h]
  split
  · rename_i h'; rw [hc] at h'; cases h'
  · rename_i alts' h'; rw [hc] at h'; cases h'; rfl

theorem isComplete_some_typed {sg : Sig} {M : Matrix} {t0 : Ty} {ts : List Ty} {alts : Alts}
    (hM : Matrix.hasTy sg M (t0 :: ts) = true) (hc : isComplete M = some alts) :
    ∃ t d, t0 = .data t ∧ sg[t]? = some d ∧ alts = declAlts d := by
  unfold isComplete at hc
  split at hc
  · cases hc
  · rename_i k a rest hcons
    split at hc
    · cases hc
      obtain ⟨t, d, _, e1, hd, ha, _⟩ := collectCtors_typed hM (hcons ▸ List.mem_cons_self)
      exact ⟨t, d, e1, hd, ha⟩
    · cases hc

/-- Functional induction for `isUseful` on well-typed arguments: the typing of the specialised
matrix and vector of each recursive call is derived here once.  The cases are those of
`Matrix::is_useful`. -/
theorem isUseful.typed_induct {sg : Sig} {motive : Matrix → Row → List Ty → Prop}
    (empty : ∀ M v ts, M.isEmpty = true → Pat.hasTyL sg v ts = true → motive M v ts)
    (nil : ∀ M, ¬ M.isEmpty = true → [] ∈ M → motive M [] [])
    (ctor : ∀ M c alts args rest t d tys ts, ¬ M.isEmpty = true →
      Matrix.hasTy sg M (.data t :: ts) = true → sg[t]? = some d →
      lookupCtor c d = some tys → args.length = tys.length →
      motive (specCtor c args.length M) (args ++ rest) (tys ++ ts) →
      motive M (.ctor c alts args :: rest) (.data t :: ts))
    (wild_none : ∀ M rest t0 ts, ¬ M.isEmpty = true → Matrix.hasTy sg M (t0 :: ts) = true →
      isComplete M = none → motive (specWild M) rest ts → motive M (.wild :: rest) (t0 :: ts))
    (wild_some : ∀ M rest t d ts, ¬ M.isEmpty = true →
      Matrix.hasTy sg M (.data t :: ts) = true → sg[t]? = some d →
      isComplete M = some (declAlts d) →
      (∀ c tys, lookupCtor c d = some tys →
        motive (specCtor c tys.length M) (wilds tys.length ++ rest) (tys ++ ts)) →
      motive M (.wild :: rest) (.data t :: ts))
    (lit : ∀ M l rest t0 ts, ¬ M.isEmpty = true → Matrix.hasTy sg M (t0 :: ts) = true →
      Pat.hasTy sg (.lit l) t0 = true →
      motive (specLit l M) rest ts → motive M (.lit l :: rest) (t0 :: ts))
    (M : Matrix) (v : Row) (ts : List Ty) :
    Matrix.hasTy sg M ts = true → Pat.hasTyL sg v ts = true → motive M v ts := by
  intro hM hv
  induction M, v using isUseful.induct generalizing ts with
  | case1 M v hE => exact empty M v ts hE hv
  | case2 M hE =>
    obtain rfl : ts = [] := List.eq_nil_of_length_eq_zero (Pat.hasTyL_length hv).symm
    cases M with
    | nil => exact absurd rfl hE
    | cons r M =>
      have hr := Pat.hasTyL_length (Matrix.hasTy_mem hM List.mem_cons_self)
      exact nil _ hE (List.eq_nil_of_length_eq_zero hr ▸ List.mem_cons_self)
  | case3 M hE c alts args rest ih =>
    obtain ⟨t0, ts, rfl, hp, hrest⟩ := Pat.hasTyL_cons hv
    obtain ⟨t, d, tys, rfl, hd, _, hl, hargs⟩ := Pat.hasTy_ctor hp
    have hlen := Pat.hasTyL_length hargs
    refine ctor M c alts args rest t d tys ts hE hM hd hl hlen
      (ih _ ?_ (Pat.hasTyL_append_of hargs hrest))
    rw [hlen]
    exact specCtor_hasTy hM hd hl
  | case4 M hE rest hc ih =>
    obtain ⟨t0, ts, rfl, _, hrest⟩ := Pat.hasTyL_cons hv
    exact wild_none M rest t0 ts hE hM hc (ih ts (specWild_hasTy hM) hrest)
  | case5 M hE rest alts hc ih =>
    obtain ⟨t0, ts, rfl, _, hrest⟩ := Pat.hasTyL_cons hv
    obtain ⟨t, d, rfl, hd, rfl⟩ := isComplete_some_typed hM hc
    refine wild_some M rest t d ts hE hM hd hc fun c tys hl => ?_
    exact ih (c, tys.length) _ (specCtor_hasTy hM hd hl)
      (Pat.hasTyL_append_of (Pat.hasTyL_wilds rfl) hrest)
  | case6 M hE l rest ih =>
    obtain ⟨t0, ts, rfl, hp, hrest⟩ := Pat.hasTyL_cons hv
    exact lit M l rest t0 ts hE hM hp (ih ts (specLit_hasTy l hM) hrest)

theorem useful_sound_gen {sg : Sig} : ∀ (M : Matrix) (v : Row) (ts : List Ty),
    Matrix.hasTy sg M ts = true → Pat.hasTyL sg v ts = true → isUseful M v = false →
      ∀ vs, Val.hasTyL sg vs ts = true → pmatchL v vs = true → ∃ r ∈ M, pmatchL r vs = true := by
  apply isUseful.typed_induct
  case empty =>
    intro M v ts hE _ hu
    rw [isUseful_empty hE] at hu; cases hu
  case nil =>
    intro M hE hmem _ vs _ hm
    cases vs with
    | nil => exact ⟨[], hmem, rfl⟩
    | cons w vs => simp [pmatchL] at hm
  case ctor =>
    intro M c alts args rest t d tys ts hE _ hd hl hlen ih hu vs hvs hm
    rw [isUseful_ctor hE] at hu
    obtain ⟨w, vs, rfl, hw, hvs'⟩ := Val.hasTyL_cons hvs
    obtain ⟨_, _, e, hmw, hmrest⟩ := pmatchL_cons hm
    cases e
    obtain ⟨ws, rfl, hmargs⟩ := pmatch_ctor_iff.mp hmw
    rw [Val.hasTy_ctor_eq hd hl] at hw
    rw [specCtor_matches, ← pmatchL_length hmargs]
    exact ih hu _ (Val.hasTyL_append_of hw hvs') (pmatchL_append_of hmargs hmrest)
  case wild_none =>
    intro M rest t0 ts hE _ hc ih hu vs hvs hm
    rw [isUseful_wild_none hE rest hc] at hu
    obtain ⟨w, vs, rfl, _, hvs'⟩ := Val.hasTyL_cons hvs
    simp only [pmatchL, pmatch, Bool.true_and] at hm
    exact specWild_matches_of w (ih hu vs hvs' hm)
  case wild_some =>
    intro M rest t d ts hE _ hd hc ih hu vs hvs hm
    rw [isUseful_wild_some hE rest hc] at hu
    obtain ⟨w, vs, rfl, hw, hvs'⟩ := Val.hasTyL_cons hvs
    simp only [pmatchL, pmatch, Bool.true_and] at hm
    obtain ⟨c, ws, d', tys, rfl, hd', hl, hws⟩ := Val.hasTy_data hw
    rw [hd] at hd'; cases hd'
    have hu' := List.any_eq_false.mp hu (c, tys.length) (lookupCtor_mem_declAlts hl)
    have hlen := Val.hasTyL_length hws
    rw [specCtor_matches, hlen]
    exact ih c tys hl (by simpa using hu') _ (Val.hasTyL_append_of hws hvs')
      (pmatchL_append_of (pmatchL_wilds hlen) hm)
  case lit =>
    intro M l rest t0 ts hE _ _ ih hu vs hvs hm
    rw [isUseful_lit hE] at hu
    obtain ⟨w, vs, rfl, _, hvs'⟩ := Val.hasTyL_cons hvs
    simp only [pmatchL, Bool.and_eq_true] at hm
    cases w with
    | ctor c ws => simp [pmatch] at hm
    | lit l' =>
      obtain rfl : l = l' := by simpa [pmatch] using hm.1
      exact (specLit_matches l vs M).mpr (ih hu vs hvs' hm.2)

theorem exists_instanceL {sg : Sig} {inh : List Val} (hs : Sig.ok sg = true) (hi : inhOk sg inh = true)
    (ps : List Pat) : ∀ (ts : List Ty), (∀ t ∈ ts, Ty.ok sg t = true) → Pat.hasTyL sg ps ts = true →
      ∃ vs, Val.hasTyL sg vs ts = true ∧ pmatchL ps vs = true := by
  refine Pat.rec_1 (motive_1 := fun p => ∀ (t : Ty), Ty.ok sg t = true →
      Pat.hasTy sg p t = true → ∃ v, Val.hasTy sg v t = true ∧ pmatch p v = true)
    ?wild ?lit ?ctor ?nil ?cons ps
  case wild =>
    intro t hok _
    exact ⟨witness inh t, witness_hasTy hi hok, by simp [pmatch]⟩
  case lit =>
    intro l t _ ht
    exact ⟨.lit l, by rw [Val.hasTy_lit, ht], by simp [pmatch]⟩
  case ctor =>
    intro c alts args ih t0 _ ht
    obtain ⟨t, d, tys, rfl, hd, _, hl, hargs⟩ := Pat.hasTy_ctor ht
    obtain ⟨vs, h1, h2⟩ := ih tys ((Sig.ok_get hs hd).2 c tys hl) hargs
    exact ⟨.ctor c vs, Val.hasTy_ctor_intro hd hl h1, by simp [pmatch, h2]⟩
  case nil =>
    intro ts _ ht
    cases ts with
    | nil => exact ⟨[], rfl, rfl⟩
    | cons t ts => simp [Pat.hasTyL] at ht
  case cons =>
    intro p ps ihp ihps ts hok ht
    obtain ⟨t, ts, rfl, h1, h2⟩ := Pat.hasTyL_cons ht
    obtain ⟨v, hv1, hv2⟩ := ihp t (hok t List.mem_cons_self) h1
    obtain ⟨vs, hvs1, hvs2⟩ := ihps ts (fun ty h => hok ty (List.mem_cons_of_mem _ h)) h2
    exact ⟨v :: vs, by simp [Val.hasTyL, hv1, hvs1], by simp [pmatchL, hv2, hvs2]⟩

/-- some typed `vs` matches `v` and no row of `M` -/
def Escapes (sg : Sig) (ts : List Ty) (M : Matrix) (v : Row) : Prop :=
  ∃ vs, Val.hasTyL sg vs ts = true ∧ pmatchL v vs = true ∧ ∀ r ∈ M, pmatchL r vs = false

theorem Escapes.ctor {sg : Sig} {M : Matrix} {t : Nat} {d : Decl} {c : Nat} {tys ts : List Ty}
    {alts : Alts} {args rest : List Pat} (hd : sg[t]? = some d) (hl : lookupCtor c d = some tys)
    (ha : args.length = tys.length)
    (h : Escapes sg (tys ++ ts) (specCtor c tys.length M) (args ++ rest)) :
    Escapes sg (.data t :: ts) M (.ctor c alts args :: rest) := by
  obtain ⟨vs', h1, h2, h3⟩ := h
  obtain ⟨ws, vs, rfl, hws, hvs⟩ := Val.hasTyL_split h1
  have hlen := Val.hasTyL_length hws
  rw [pmatchL_append (by omega), Bool.and_eq_true] at h2
  refine ⟨.ctor c ws :: vs, by simp [Val.hasTyL, Val.hasTy_ctor_eq hd hl, hws, hvs],
    by simp [pmatchL, pmatch, h2], ?_⟩
  rw [← hlen] at h3
  exact unmatched_of_iff (specCtor_matches c ws vs M) h3

theorem Escapes.lit {sg : Sig} {M : Matrix} {l : Lit} {t0 : Ty} {ts : List Ty} {rest : List Pat}
    (hl : Pat.hasTy sg (.lit l) t0 = true) (h : Escapes sg ts (specLit l M) rest) :
    Escapes sg (t0 :: ts) M (.lit l :: rest) := by
  obtain ⟨vs, h1, h2, h3⟩ := h
  refine ⟨.lit l :: vs, by simp [Val.hasTyL, Val.hasTy_lit, hl, h1], by simp [pmatchL, pmatch, h2],
    unmatched_of_iff (specLit_matches l vs M) h3⟩

theorem Escapes.fresh {sg : Sig} {M : Matrix} {w : Val} {p : Pat} {t0 : Ty} {ts : List Ty}
    {rest : List Pat} (hw : Val.hasTy sg w t0 = true) (hf : FreshFor M w) (hp : pmatch p w = true)
    (h : Escapes sg ts (specWild M) rest) : Escapes sg (t0 :: ts) M (p :: rest) := by
  obtain ⟨vs, h1, h2, h3⟩ := h
  refine ⟨w :: vs, by simp [Val.hasTyL, hw, h1], by simp [pmatchL, hp, h2],
    unmatched_of_iff (specWild_matches hf vs) h3⟩

theorem Escapes.head_wild {sg : Sig} {M : Matrix} {p : Pat} {ts : List Ty} {rest : List Pat}
    (h : Escapes sg ts M (p :: rest)) : Escapes sg ts M (.wild :: rest) := by
  obtain ⟨vs, h1, h2, h3⟩ := h
  obtain ⟨w, ws, rfl, _, hr⟩ := pmatchL_cons h2
  exact ⟨w :: ws, h1, by simp [pmatchL, pmatch, hr], h3⟩

theorem useful_complete_gen {sg : Sig} {inh : List Val} (hs : Sig.ok sg = true) (hi : inhOk sg inh = true) :
    ∀ (M : Matrix) (v : Row) (ts : List Ty), Matrix.hasTy sg M ts = true → Pat.hasTyL sg v ts = true →
      (∀ t ∈ ts, Ty.ok sg t = true) → isUseful M v = true → Escapes sg ts M v := by
  apply isUseful.typed_induct
  case empty =>
    intro M v ts hE hv hok _
    obtain ⟨vs, h1, h2⟩ := exists_instanceL hs hi v ts hok hv
    refine ⟨vs, h1, h2, ?_⟩
    rw [List.isEmpty_iff.mp hE]
    simp
  case nil =>
    intro M hE _ _ hu
    rw [isUseful_nil_row hE] at hu; cases hu
  case ctor =>
    intro M c alts args rest t d tys ts hE _ hd hl hlen ih hok hu
    rw [isUseful_ctor hE, hlen] at hu
    rw [hlen] at ih
    exact .ctor hd hl hlen (ih (Sig.ok_fields hs hd hl (List.forall_mem_cons.mp hok).2) hu)
  case wild_none =>
    intro M rest t0 ts hE hM hc ih hok hu
    rw [isUseful_wild_none hE rest hc] at hu
    obtain ⟨hok0, hok'⟩ := List.forall_mem_cons.mp hok
    obtain ⟨w, hw, hfresh⟩ := fresh_head hs hi hok0 hM hc
    exact .fresh hw hfresh rfl (ih hok' hu)
  case wild_some =>
    intro M rest t d ts hE _ hd hc ih hok hu
    rw [isUseful_wild_some hE rest hc] at hu
    obtain ⟨⟨c, a⟩, halt, hu'⟩ := List.any_eq_true.mp hu
    obtain ⟨tys, hl, rfl⟩ := declAlts_mem_lookup (Sig.ok_get hs hd).1 halt
    exact (Escapes.ctor (alts := declAlts d) hd hl (wilds_length _)
      (ih c tys hl (Sig.ok_fields hs hd hl (List.forall_mem_cons.mp hok).2) hu')).head_wild
  case lit =>
    intro M l rest t0 ts hE _ hl ih hok hu
    rw [isUseful_lit hE] at hu
    exact .lit hl (ih (List.forall_mem_cons.mp hok).2 hu)

theorem useful_iff_gen {sg : Sig} {inh : List Val} (hs : Sig.ok sg = true) (hi : inhOk sg inh = true)
    {M : Matrix} {v : Row} {ts : List Ty} (hM : Matrix.hasTy sg M ts = true)
    (hv : Pat.hasTyL sg v ts = true) (hok : ∀ t ∈ ts, Ty.ok sg t = true) :
    isUseful M v = true ↔ Escapes sg ts M v := by
  refine ⟨useful_complete_gen hs hi M v ts hM hv hok, ?_⟩
  rintro ⟨vs, h1, h2, h3⟩
  cases hu : isUseful M v with
  | true => rfl
  | false =>
    obtain ⟨r, hr, hm⟩ := useful_sound_gen M v ts hM hv hu vs h1 h2
    rw [h3 r hr] at hm
    cases hm

end AikenVerif.Match
