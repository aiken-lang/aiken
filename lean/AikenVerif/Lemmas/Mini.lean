import AikenVerif.Model.Mini
/-!
Lemmas about the MiniAiken source semantics: the writer-style `bind`, `firstMatch` as a
first-success search over the clauses, and fuel monotonicity of `eval` / `evalList`.
-/
namespace AikenVerif.Mini

@[simp] theorem bind_val {α β} (a : α) (l : List Val) (f : α → M β) :
    bind (Outcome.val a, l) f = ((f a).1, l ++ (f a).2) := rfl
@[simp] theorem bind_abort {α β} (l : List Val) (f : α → M β) :
    bind ((Outcome.abort : Outcome α), l) f = (Outcome.abort, l) := rfl
@[simp] theorem bind_oof {α β} (l : List Val) (f : α → M β) :
    bind ((Outcome.outOfFuel : Outcome α), l) f = (Outcome.outOfFuel, l) := rfl
@[simp] theorem bind_stuck {α β} (l : List Val) (f : α → M β) :
    bind ((Outcome.stuck : Outcome α), l) f = (Outcome.stuck, l) := rfl

theorem firstMatch_cons (v : Val) (p : Pat) (b : Expr) (rest : List (Pat × Expr)) :
    firstMatch v ((p, b) :: rest) =
      match matchPat p v with
      | some bs => some (bs, b)
      | none => firstMatch v rest := rfl

theorem firstMatch_eq_findSome? (v : Val) (cs : List (Pat × Expr)) :
    firstMatch v cs = cs.findSome? fun c => (matchPat c.1 v).map (·, c.2) := by
  induction cs with
  | nil => rfl
  | cons c cs ih =>
    rw [firstMatch_cons, List.findSome?_cons, ← ih]
    cases matchPat c.1 v <;> rfl

theorem firstMatch_mem (v : Val) (cs : List (Pat × Expr)) (bs : Env) (b : Expr)
    (h : firstMatch v cs = some (bs, b)) : ∃ c ∈ cs, matchPat c.1 v = some bs ∧ c.2 = b := by
  rw [firstMatch_eq_findSome?] at h
  obtain ⟨c, hc, h⟩ := List.exists_of_findSome?_eq_some h
  obtain ⟨bs0, hp, hb⟩ := Option.map_eq_some_iff.mp h
  cases hb
  exact ⟨c, hc, hp, rfl⟩

/-- `x` is `y` up to running out of fuel: unless `x` ran out, outcome AND trace are equal (`Rel` of
`MiniTrace` compares outcomes only, and only when neither side ran out). -/
def Le {α} (x y : M α) : Prop := x.1 ≠ Outcome.outOfFuel → x = y

theorem Le.refl {α} (x : M α) : Le x x := fun _ => rfl

theorem Le.trans {α} {x y z : M α} (h₁ : Le x y) (h₂ : Le y z) : Le x z := fun hne => by
  have hxy := h₁ hne
  subst hxy
  exact h₂ hne

theorem Le_oof {α} (l : List Val) (y : M α) : Le ((Outcome.outOfFuel : Outcome α), l) y :=
  fun h => absurd rfl h

theorem Le_bind {α β} {x y : M α} {f g : α → M β} (h : Le x y) (hf : ∀ a, Le (f a) (g a)) :
    Le (bind x f) (bind y g) := by
  obtain ⟨o, l⟩ := x
  intro hne
  cases o with
  | val a =>
    obtain rfl := h nofun
    exact congrArg (fun r => (r.1, l ++ r.2)) (hf a hne)
  | outOfFuel => exact absurd rfl hne
  | abort => obtain rfl := h nofun; rfl
  | stuck => obtain rfl := h nofun; rfl

/-- `eval P m (n + 1) env e` unfolds definitionally once `e` is a former, so each case applies
`Le_bind` along the evaluator's own binds; the leaves are the induction hypothesis or the same
fuel-free computation on both sides. -/
theorem eval_mono_step (P : Program) (m : Mode) :
    ∀ n, (∀ env e, Le (eval P m n env e) (eval P m (n + 1) env e)) ∧
         (∀ env es, Le (evalList P m n env es) (evalList P m (n + 1) env es)) := by
  intro n
  induction n with
  | zero => exact ⟨fun _ _ => Le_oof _ _, fun _ _ => Le_oof _ _⟩
  | succ n ih =>
    obtain ⟨ihE, ihL⟩ := ih
    refine ⟨fun env e => ?_, fun env es => ?_⟩
    · cases e with
      | lit _ | var _ | lam _ | fnref _ | fail _ => exact Le.refl _
      | letE x used a b =>
        cases used
        · exact ihE _ _
        · exact Le_bind (ihE _ _) fun _ => ihE _ _
      | ite c t f =>
        refine Le_bind (ihE _ _) fun v => ?_
        split
        · exact ihE _ _
        · exact ihE _ _
        · exact Le.refl _
      | and a b =>
        refine Le_bind (ihE _ _) fun v => ?_
        split
        · exact ihE _ _
        · exact Le.refl _
        · exact Le.refl _
      | or a b =>
        refine Le_bind (ihE _ _) fun v => ?_
        split
        · exact Le.refl _
        · exact ihE _ _
        · exact Le.refl _
      | un op a | traceIfFalse a => exact Le_bind (ihE _ _) fun _ => Le.refl _
      | bin op a b => exact Le_bind (ihE _ _) fun _ => Le_bind (ihE _ _) fun _ => Le.refl _
      | tuple es | list es | con _ es => exact Le_bind (ihL _ _) fun _ => Le.refl _
      | call f es =>
        refine Le_bind (ihL _ _) fun vs => ?_
        split
        · split
          · exact ihE _ _
          · exact Le.refl _
        · exact Le.refl _
      | app f es =>
        refine Le_bind (ihE _ _) fun fv => Le_bind (ihL _ _) fun vs => ?_
        cases fv with
        | clo _ _ | fn _ =>
          dsimp only
          split
          · split
            · exact ihE _ _
            · exact Le.refl _
          · exact Le.refl _
        | _ => exact Le.refl _
      | «when» _ _ | expect _ _ _ =>
        refine Le_bind (ihE _ _) fun v => ?_
        split
        · exact ihE _ _
        · exact Le.refl _
      | trace label args body =>
        cases m with
        | silent => exact ihE _ _
        | compact => exact Le_bind (ihE _ _) fun _ => Le_bind (Le.refl _) fun _ => ihE _ _
        | verbose =>
          exact Le_bind (ihE _ _) fun _ => Le_bind (ihL _ _) fun _ => Le_bind (Le.refl _) fun _ => ihE _ _
    · cases es with
      | nil => exact Le.refl _
      | cons e es => exact Le_bind (ihE _ _) fun _ => Le_bind (ihL _ _) fun _ => Le.refl _

theorem eval_mono (P : Program) (m : Mode) (n k : Nat) (env : Env) (e : Expr) :
    Le (eval P m n env e) (eval P m (n + k) env e) := by
  induction k with
  | zero => exact Le.refl _
  | succ k ih => exact ih.trans ((eval_mono_step P m (n + k)).1 env e)

end AikenVerif.Mini
