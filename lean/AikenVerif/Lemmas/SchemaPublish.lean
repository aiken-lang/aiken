import AikenVerif.Lemmas.Schema
/-! The generator (`collect` → `prune` → `replaceAll`) produces a faithful table. -/
namespace AikenVerif.Blueprint

theorem childTypes_list {t : ATy} (hnp : ∀ a b, t = .pair a b → False) (decls : Decls) :
    childTypes decls (.list t) = [t] := by
  cases t <;> first | rfl | exact (hnp _ _ rfl).elim

/-- everything a generated schema refers to was visited by `do_from_type` -/
theorem schemaOf_refs_children {decls : Decls} {t : ATy} {s : Schema}
    (h : schemaOf decls t = some s) : ∀ k ∈ s.refs, k ∈ childTypes decls t := by
  revert h
  -- one goal per arm of `schemaOf`, each with its schema written out
  fun_cases schemaOf decls t
  all_goals intro h; cases h
  -- primitive types and enumerations refer to nothing
  iterate 7 exact nofun
  -- option
  · exact fun k hk => hk
  -- list of pairs: the pair itself was visited too
  · exact fun k hk => List.mem_cons_of_mem _ hk
  -- list
  · rename_i hnp
    rw [childTypes_list hnp]
    exact fun k hk => hk
  -- pair
  · exact fun k hk => hk
  -- tuple
  · simp only [Schema.refs, flatMap_declRefs_refs]
    exact fun k hk => hk
  -- record
  · rename_i hsh
    simp only [Schema.refs, flatMap_declRefs_refs, childTypes, hsh]
    exact fun k hk => hk
  -- variants
  · rename_i hsh
    simp only [Schema.refs, List.flatMap_map, flatMap_declRefs_refs, childTypes, hsh]
    exact fun k hk => hk

-- Work-list invariant of the collecting loop: every key referred to is defined in `seen` or still
-- pending in `work`.  `PInv` below is the same with the work list empty.
structure CInv (decls : Decls) (params work : List ATy) (seen : Table) : Prop where
  sound : ∀ e ∈ seen, schemaOf decls e.1 = some e.2
  closed : ∀ e ∈ seen, ∀ k ∈ e.2.refs, (∃ s', (k, s') ∈ seen) ∨ k ∈ work
  roots : ∀ p ∈ params, (∃ s', (p, s') ∈ seen) ∨ p ∈ work

theorem pending_step {seen seen' : Table} {t k : ATy} {rest rest' : List ATy}
    (ht : ∃ s, (t, s) ∈ seen') (hs : ∀ e ∈ seen, e ∈ seen') (hr : ∀ k ∈ rest, k ∈ rest')
    (h : (∃ s', (k, s') ∈ seen) ∨ k ∈ t :: rest) : (∃ s', (k, s') ∈ seen') ∨ k ∈ rest' := by
  rcases h with ⟨s', h⟩ | h
  · exact .inl ⟨s', hs _ h⟩
  · rcases List.mem_cons.mp h with rfl | h
    · exact .inl ht
    · exact .inr (hr k h)

theorem collect_inv {decls : Decls} {params : List ATy} {fuel : Nat} {work : List ATy}
    {seen out : Table} (h : collect decls fuel work seen = some out)
    (inv : CInv decls params work seen) : CInv decls params [] out := by
  fun_induction collect decls fuel work seen
  · cases h; exact inv
  · cases h
  · -- `t` is defined already
    rename_i rest seen s0 hg ih
    have step {k} := pending_step (k := k) (rest := rest) (rest' := rest) ⟨s0, Table.mem_of_get hg⟩
      (fun _ h => h) (fun _ h => h)
    exact ih h ⟨inv.sound, fun e he k hk => step (inv.closed e he k hk), fun p hp => step (inv.roots p hp)⟩
  · cases h
  · -- `t` gets its schema, its children become pending
    rename_i fuel t rest seen hg s hs ih
    have step {k} := pending_step (k := k) (seen' := (t, s) :: seen) (rest' := childTypes decls t ++ rest)
      ⟨s, List.mem_cons_self⟩ (fun _ h => List.mem_cons_of_mem _ h) (fun _ h => List.mem_append_right _ h)
    refine ih h ⟨List.forall_mem_cons.mpr ⟨hs, inv.sound⟩, List.forall_mem_cons.mpr ⟨?_, ?_⟩, ?_⟩
    · exact fun k hk => .inr (List.mem_append_left _ (schemaOf_refs_children hs k hk))
    · exact fun e he k hk => step (inv.closed e he k hk)
    · exact fun p hp => step (inv.roots p hp)

structure PInv (decls : Decls) (params : List ATy) (tbl : Table) : Prop where
  sound : ∀ e ∈ tbl, schemaOf decls e.1 = some e.2
  closed : ∀ e ∈ tbl, ∀ k ∈ e.2.refs, ∃ s', (k, s') ∈ tbl
  roots : ∀ p ∈ params, ∃ s', (p, s') ∈ tbl

theorem PInv.of_CInv {decls : Decls} {params : List ATy} {tbl : Table}
    (h : CInv decls params [] tbl) : PInv decls params tbl :=
  ⟨h.sound,
   fun e he k hk => (h.closed e he k hk).elim id (fun h => by cases h),
   fun p hp => (h.roots p hp).elim id (fun h => by cases h)⟩

theorem pruneStep_inv {decls : Decls} {params : List ATy} {tbl : Table}
    (h : PInv decls params tbl) : PInv decls params (pruneStep params tbl) := by
  refine ⟨?_, ?_, ?_⟩
  · intro e he
    exact h.sound e (List.mem_filter.mp he).1
  · intro e he k hk
    have he' := (List.mem_filter.mp he).1
    obtain ⟨s', hs'⟩ := h.closed e he' k hk
    refine ⟨s', List.mem_filter.mpr ⟨hs', ?_⟩⟩
    simp only [Bool.or_eq_true, List.any_eq_true]
    exact .inr ⟨e, he', by simpa using hk⟩
  · intro p hp
    obtain ⟨s', hs'⟩ := h.roots p hp
    refine ⟨s', List.mem_filter.mpr ⟨hs', ?_⟩⟩
    simp only [Bool.or_eq_true]
    exact .inl (.inr (by simpa using hp))

theorem prune_inv {decls : Decls} {params : List ATy} (n : Nat) {tbl : Table}
    (h : PInv decls params tbl) : PInv decls params (prune params n tbl) := by
  induction n generalizing tbl with
  | zero => exact h
  | succ n ih => exact ih (pruneStep_inv h)

theorem replaceAll_get (tbl : Table) (k : ATy) :
    (replaceAll tbl).get k = (tbl.get k).map (fun s => Schema.data (replaceS s)) := by
  induction tbl with
  | nil => rfl
  | cons e rest ih =>
    obtain ⟨k', s⟩ := e
    simp only [replaceAll, List.map_cons, Table.get_cons] at ih ⊢
    by_cases hk : k' = k
    · simp [hk]
    · simp [hk]; exact ih

/-- `schema_to_data` keeps the references of a generated schema -/
theorem refs_replaceS {decls : Decls} {t : ATy} {s : Schema} (h : schemaOf decls t = some s) :
    (Schema.data (replaceS s)).refs = s.refs := by
  revert h
  fun_cases schemaOf decls t
  all_goals intro h; cases h
  all_goals rfl

theorem replaceAll_get_of_mem {tbl : Table} {k : ATy} {s : Schema} (h : (k, s) ∈ tbl) :
    ∃ s', (replaceAll tbl).get k = some s' := by
  obtain ⟨s', hs'⟩ := Table.exists_get_of_mem h
  exact ⟨_, by rw [replaceAll_get, hs']; rfl⟩

theorem Faithful.of_PInv {decls : Decls} {params : List ATy} {tbl : Table}
    (h : PInv decls params tbl) : Faithful decls (replaceAll tbl) := by
  intro t s hget
  rw [replaceAll_get] at hget
  cases hg : tbl.get t with
  | none => rw [hg] at hget; cases hget
  | some s0 =>
    rw [hg] at hget
    cases hget
    have hmem := Table.mem_of_get hg
    have hso := h.sound _ hmem
    refine ⟨replaceS s0, by rw [pubSchema, hso]; rfl, rfl, fun k hk => ?_⟩
    rw [refs_replaceS hso] at hk
    obtain ⟨s', hs'⟩ := h.closed _ hmem k hk
    exact replaceAll_get_of_mem hs'

end AikenVerif.Blueprint
