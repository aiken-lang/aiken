import AikenVerif.Model.Flat
-- The statements of this file and of Props/C08 that mention `2 ^ n` on ℕ are stated with Mathlib's `Monoid ℕ` power in
-- scope (they elaborate through that instance): the import is part of what they say.
import Mathlib.Algebra.Group.Nat.Defs
/-!
M-FLAT: bits, the round-trip combinators, and the primitives (fixed-width fields, filler, words, zig-zag).
`natBits`/`bitsNat`/`byteBits` here are M-FLAT's own; the builtin laws have twins (`Bytes'.natBits` in
`Lemmas/Bits.lean`, `Bytes'.bitsToNat`/`byteBits` in `Model/Builtin.lean`) that are not the same terms.
-/
namespace AikenVerif.Flat

@[simp] theorem natBits_length (k v : Nat) : (natBits k v).length = k := by
  induction k with
  | zero => rfl
  | succ k ih => simp [natBits, ih]

theorem bitsNat_natBits (k v : Nat) : bitsNat (natBits k v) = v % 2 ^ k := by
  induction k with
  | zero => simp [natBits, bitsNat, Nat.mod_one]
  | succ k ih =>
    simp only [natBits, bitsNat, natBits_length, ih]
    have h2 : v / 2 ^ k % 2 = 0 ∨ v / 2 ^ k % 2 = 1 := by omega
    rw [Nat.pow_succ, Nat.mod_mul]
    rcases h2 with h | h <;> simp [h, Nat.add_comm]

theorem bitsNat_lt (bs : Bits) : bitsNat bs < 2 ^ bs.length := by
  induction bs with
  | nil => exact Nat.one_pos
  | cons b bs ih =>
    have := Nat.mul_le_mul_right (2 ^ bs.length) (Bool.toNat_le b)
    simp only [bitsNat, List.length_cons, Nat.pow_succ]
    omega

theorem natBits_add_mul (k v a : Nat) : natBits k (v + 2 ^ k * a) = natBits k v := by
  induction k generalizing a with
  | zero => rfl
  | succ k ih =>
    have h : v + 2 ^ (k + 1) * a = v + 2 ^ k * (2 * a) := by rw [Nat.pow_succ, Nat.mul_assoc]
    simp only [natBits, h, ih, Nat.add_mul_div_left _ _ (Nat.two_pow_pos k), Nat.add_mul_mod_self_left]

theorem natBits_bitsNat (bs : Bits) : natBits bs.length (bitsNat bs) = bs := by
  induction bs with
  | nil => rfl
  | cons b bs ih =>
    simp only [List.length_cons, natBits, bitsNat]
    rw [Nat.add_comm, Nat.mul_comm, natBits_add_mul, ih, Nat.add_mul_div_left _ _ (Nat.two_pow_pos _),
      Nat.div_eq_of_lt (bitsNat_lt bs)]
    cases b <;> rfl

theorem byteBits_ofNat_bitsNat (bs : Bits) (h : bs.length = 8) :
    byteBits (UInt8.ofNat (bitsNat bs)) = bs := by
  have hlt := bitsNat_lt bs
  have hb := natBits_bitsNat bs
  rw [h] at hlt hb
  rw [byteBits, UInt8.toNat_ofNat', Nat.mod_eq_of_lt hlt, hb]

theorem ofNat_bitsNat_byteBits (x : UInt8) : UInt8.ofNat (bitsNat (byteBits x)) = x := by
  rw [byteBits, bitsNat_natBits, Nat.mod_eq_of_lt x.toNat_lt, UInt8.ofNat_toNat]

@[simp] theorem bitsOfBytes_cons (x : UInt8) (xs : Bytes) :
    bitsOfBytes (x :: xs) = byteBits x ++ bitsOfBytes xs := rfl

theorem bytesOfBits_byteBits_append (x : UInt8) (r : Bits) :
    bytesOfBits (byteBits x ++ r) = x :: bytesOfBits r := by
  have h := ofNat_bitsNat_byteBits x
  -- name the eight bits, so that `bytesOfBits` (which matches on eight conses) unfolds
  obtain ⟨b7, b6, b5, b4, b3, b2, b1, b0, hb⟩ :
      ∃ b7 b6 b5 b4 b3 b2 b1 b0, byteBits x = [b7, b6, b5, b4, b3, b2, b1, b0] :=
    ⟨_, _, _, _, _, _, _, _, rfl⟩
  rw [hb] at h ⊢
  simp only [List.cons_append, List.nil_append, bytesOfBits, h]

@[simp] theorem bytesOfBits_bitsOfBytes_append (b : Bytes) (r : Bits) :
    bytesOfBits (bitsOfBytes b ++ r) = b ++ bytesOfBits r := by
  induction b with
  | nil => rfl
  | cons x xs ih => rw [bitsOfBytes_cons, List.append_assoc, bytesOfBits_byteBits_append, ih]; rfl

@[simp] theorem bytesOfBits_nil : bytesOfBits [] = [] := rfl

@[simp] theorem bytesOfBits_bitsOfBytes (b : Bytes) : bytesOfBits (bitsOfBytes b) = b := by
  have := bytesOfBits_bitsOfBytes_append b []
  simpa using this

@[simp] theorem bitsOfBytes_length (b : Bytes) : (bitsOfBytes b).length = 8 * b.length := by
  induction b with
  | nil => rfl
  | cons x xs ih =>
    rw [bitsOfBytes_cons, List.length_append, ih, byteBits, natBits_length, List.length_cons]; omega

theorem bitsOfBytes_append (a b : Bytes) : bitsOfBytes (a ++ b) = bitsOfBytes a ++ bitsOfBytes b :=
  List.flatMap_append

theorem bitsOfBytes_bytesOfBits : ∀ (k : Nat) (bits : Bits), bits.length = 8 * k →
    bitsOfBytes (bytesOfBits bits) = bits
  | 0, bits, h => by
    have : bits = [] := List.eq_nil_of_length_eq_zero (by omega)
    subst this; rfl
  | k + 1, bits, h => by
    match bits, h with
    | b7 :: b6 :: b5 :: b4 :: b3 :: b2 :: b1 :: b0 :: rest, h =>
      have ih := bitsOfBytes_bytesOfBits k rest (by simp only [List.length_cons] at h; omega)
      rw [bytesOfBits, bitsOfBytes_cons, byteBits_ofNat_bitsNat _ rfl, ih]; rfl

@[simp] theorem Enc.seq_length (e₁ e₂ : Enc) (n : Nat) :
    ((e₁ ⊕ e₂) n).length = (e₁ n).length + (e₂ (n + (e₁ n).length)).length := List.length_append

@[simp] theorem Enc.lit_apply (b : Bits) (n : Nat) : Enc.lit b n = b := rfl

theorem Enc.lit_append (a b : Bits) : Enc.lit (a ++ b) = Enc.lit a ⊕ Enc.lit b := rfl

/-- decoder `d` reads back `v` from what encoder `e` wrote, at any position and
in front of any continuation, and leaves exactly the continuation -/
def RT {α : Type} (e : Enc) (d : Dec α) (v : α) : Prop :=
  ∀ n rest, d ⟨n, e n ++ rest⟩ = .ok (v, ⟨n + (e n).length, rest⟩)

theorem RT.bind {α β : Type} {e₁ e₂ : Enc} {d : Dec α} {f : α → Dec β} {v : α} {w : β}
    (h₁ : RT e₁ d v) (h₂ : RT e₂ (f v) w) : RT (e₁ ⊕ e₂) (d.bind f) w := by
  intro n rest
  simp only [Enc.seq, List.append_assoc, Dec.bind, h₁ n, h₂ (n + (e₁ n).length), List.length_append,
    Nat.add_assoc]

theorem RT.bind_pure {α β : Type} {e : Enc} {d : Dec α} {f : α → Dec β} {v : α} {w : β}
    (h : RT e d v) (hf : f v = Dec.pure w) : RT e (d.bind f) w := by
  intro n rest
  simp only [Dec.bind, h n, hf, Dec.pure]

theorem RT.pure {α : Type} (v : α) : RT (Enc.lit []) (Dec.pure v) v := by
  intro n rest; simp [Enc.lit, Dec.pure]

theorem RT.of_eq {α : Type} {e e' : Enc} {d : Dec α} {v : α} (h : RT e d v) (he : e' = e) : RT e' d v := he ▸ h

theorem rt_bits (k v : Nat) (hv : v < 2 ^ k) : RT (Enc.lit (natBits k v)) (decBits k) v := by
  intro n rest
  have hk := natBits_length k v
  simp only [Enc.lit, decBits, List.length_append, hk, if_neg (Nat.not_lt.mpr (Nat.le_add_right k _)),
    List.take_left' hk, List.drop_left' hk, bitsNat_natBits, Nat.mod_eq_of_lt hv]

theorem decBits8_natBits (v n : Nat) (rest : Bits) (hv : v < 256) :
    decBits 8 ⟨n, natBits 8 v ++ rest⟩ = .ok (v, ⟨n + 8, rest⟩) := by
  simpa using rt_bits 8 v hv n rest

theorem rt_bit (b : Bool) : RT (Enc.lit [b]) decBit b := fun _ _ => rfl

theorem rt_bool (m : Mode) (b : Bool) : RT (Enc.lit [b]) (decBool m) b := fun _ _ => rfl

@[simp] theorem fillerE_length (n : Nat) : (fillerE n).length = 8 - n % 8 := by
  simp only [fillerE, List.length_append, List.length_replicate, List.length_singleton]; omega

theorem decFillerBits_replicate (k n : Nat) (rest : Bits) :
    decFillerBits n (List.replicate k false ++ true :: rest) = .ok ((), ⟨n + k + 1, rest⟩) := by
  induction k generalizing n with
  | zero => rfl
  | succ k ih =>
    rw [List.replicate_succ, List.cons_append, decFillerBits, ih, Nat.add_right_comm n 1 k]; rfl

theorem rt_filler : RT fillerE decFiller () := by
  intro n rest
  rw [fillerE_length]
  simp only [fillerE, decFiller, List.append_assoc, List.cons_append, List.nil_append, decFillerBits_replicate]
  congr 3; omega

theorem filler_aligned (n : Nat) : (n + (fillerE n).length) % 8 = 0 := by
  rw [fillerE_length]; omega

theorem wordBits_lt (w : Nat) (h : w < 128) : wordBits w = natBits 8 w := by
  rw [wordBits, if_pos h]

theorem wordBits_ge (w : Nat) (h : ¬ w < 128) :
    wordBits w = natBits 8 (128 + w % 128) ++ wordBits (w / 128) := by
  rw [wordBits, if_neg h]

theorem wordBits_length_pos (w : Nat) : 8 ≤ (wordBits w).length := by
  by_cases h : w < 128
  · rw [wordBits_lt w h]; simp
  · rw [wordBits_ge w h]; simp

/-- `big_word` -/
theorem rt_bigWordGo : ∀ (f w : Nat), (wordBits w).length < 8 * f →
    RT (Enc.lit (wordBits w)) (decBigWordGo f) w
  | 0, w, h => by omega
  | f + 1, w, h => by
    rw [decBigWordGo]
    by_cases hw : w < 128
    · rw [wordBits_lt w hw]
      exact RT.bind_pure (rt_bits 8 w (by omega)) (if_pos hw)
    · rw [wordBits_ge w hw] at h ⊢
      have ih := rt_bigWordGo f (w / 128) (by simp only [List.length_append, natBits_length] at h; omega)
      rw [Enc.lit_append]
      refine RT.bind (rt_bits 8 (128 + w % 128) (by omega)) ?_
      rw [if_neg (by omega)]
      exact RT.bind_pure ih (congrArg Dec.pure (by omega))

theorem rt_bigWord (w : Nat) : RT (Enc.lit (wordBits w)) decBigWord w := by
  intro n rest
  exact rt_bigWordGo _ w (by simp only [Enc.lit_apply, List.length_append]; omega) n rest

theorem unzigzag_zigzag (i : Int) : unzigzag (zigzag i) = i := by
  cases i with
  | ofNat n => simp [zigzag, unzigzag]
  | negSucc n =>
    have h2 : (2 * n + 1) / 2 = n := by omega
    simp [zigzag, unzigzag, h2]

theorem rt_bigInt (i : Int) : RT (Enc.lit (wordBits (zigzag i))) decBigInt i :=
  RT.bind_pure (rt_bigWord (zigzag i)) (congrArg Dec.pure (unzigzag_zigzag i))

/-- a word that continues after group `i`: its low group and its remaining groups still fit, and there
is room for group `i + 1` -/
theorem word_step (w p : Nat) (hw : w * p < 2 ^ 64) (h128 : ¬ w < 128) :
    w * p = w % 128 * p + w / 128 * (128 * p) ∧ w % 128 * p < 2 ^ 64 ∧ w / 128 * (128 * p) < 2 ^ 64 ∧
      128 * p < 2 ^ 64 := by
  have hsplit : w * p = w % 128 * p + w / 128 * (128 * p) := by
    rw [← Nat.mul_assoc, ← Nat.add_mul, Nat.mul_comm (w / 128), Nat.mod_add_div]
  have := Nat.mul_le_mul_right (128 * p) (show 1 ≤ w / 128 by omega)
  omega

/-- `usize` words: group `i`, in both modes, as long as the value fits 64 bits -/
theorem rt_wordGo (m : Mode) : ∀ (f w i acc : Nat), f + i = 11 → 7 * i < 64 → w * 2 ^ (7 * i) < 2 ^ 64 →
    RT (Enc.lit (wordBits w)) (decWordGo m f i acc) (acc + w * 2 ^ (7 * i))
  | 0, w, i, acc, hf, hi, hw => by omega
  | f + 1, w, i, acc, hf, hi, hw => by
    unfold decWordGo
    by_cases h128 : w < 128
    · rw [wordBits_lt w h128]
      refine RT.bind_pure (rt_bits 8 w (by omega)) ?_
      simp only [usizeBits, Nat.mod_eq_of_lt h128, Nat.mod_eq_of_lt hw, if_neg (Nat.not_le.mpr hi),
        if_neg (fun h : m = .fixed ∧ _ => Nat.not_le.mpr hw h.2), if_pos h128]
    · obtain ⟨hsplit, hlo, hhi, hp⟩ := word_step w (2 ^ (7 * i)) hw h128
      have hpow : 2 ^ (7 * (i + 1)) = 128 * 2 ^ (7 * i) := by
        rw [Nat.mul_add, Nat.pow_add, Nat.mul_comm]
      rw [← hpow] at hhi hp hsplit
      have hi1 : 7 * (i + 1) < 64 := (Nat.pow_lt_pow_iff_right (by decide)).mp hp
      have ih := rt_wordGo m f (w / 128) (i + 1) (acc + w % 128 * 2 ^ (7 * i)) (by omega) hi1 hhi
      rw [wordBits_ge w h128, Enc.lit_append]
      refine RT.bind (rt_bits 8 (128 + w % 128) (by omega)) ?_
      simp only [usizeBits, Nat.add_mod_left, Nat.mod_mod, Nat.mod_eq_of_lt hlo, if_neg (Nat.not_le.mpr hi),
        if_neg (fun h : m = .fixed ∧ _ => Nat.not_le.mpr hlo h.2),
        if_neg (show ¬ 128 + w % 128 < 128 by omega)]
      rw [hsplit, ← Nat.add_assoc]
      exact ih

theorem rt_word (m : Mode) (w : Nat) (hw : w < 2 ^ 64) : RT (Enc.lit (wordBits w)) (decWord m) w := by
  have := rt_wordGo m 11 w 0 0 rfl (by decide) (by simpa using hw)
  simpa [decWord] using this

theorem zigzag_lt (u : Int) (h : fitsIsize u = true) : zigzag u < 2 ^ 64 := by
  simp only [fitsIsize, Bool.and_eq_true, decide_eq_true_eq] at h
  cases u with
  | ofNat n => simp only [zigzag]; have : (n : Int) < 2 ^ 63 := h.2; omega
  | negSucc n =>
    simp only [zigzag]
    have : -(2 ^ 63 : Int) ≤ Int.negSucc n := h.1
    have : (n : Int) + 1 ≤ 2 ^ 63 := by rw [Int.negSucc_eq] at this; omega
    omega

theorem rt_int64 (m : Mode) (u : Int) (h : fitsIsize u = true) :
    RT (Enc.lit (wordBits (zigzag u))) (decInt64 m) u :=
  RT.bind_pure (rt_word m (zigzag u) (zigzag_lt u h)) (congrArg Dec.pure (unzigzag_zigzag u))

end AikenVerif.Flat
