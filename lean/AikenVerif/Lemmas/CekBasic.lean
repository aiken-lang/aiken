import AikenVerif.Model.Spec
import AikenVerif.Lemmas.TermInd
/-! The implementation model's representation choices agree with the specification's. -/
namespace AikenVerif
open Gen

theorem sig_eq (b : Builtin) : Spec.sig b = Spec.mkSig b.forceCount b.arity := by
  cases b <;> rfl

theorem arity_pos (b : Builtin) : 0 < b.arity := by
  cases b <;> decide

/-- `lookup_var` and `with_env` index from the end: `len - k` under `checked_sub` -/
theorem getElem?_from_end {α} (env : List α) (k : Nat) (hk : k ≠ 0) :
    (if k ≤ env.length then env[env.length - k]? else none) = env.reverse[k - 1]? := by
  obtain ⟨j, rfl⟩ : ∃ j, k = j + 1 := ⟨k - 1, by omega⟩
  rw [Nat.add_sub_cancel]
  split
  · rename_i h
    rw [List.getElem?_reverse h, Nat.sub_sub, Nat.add_comm]
  · rename_i h
    exact (List.getElem?_eq_none (by rw [List.length_reverse]; omega)).symm

theorem lookupVar_eq (env : List Value) (n : NamedDeBruijn) :
    lookupVar env n = (match Spec.lookup env n.index with | some v => .ok v | none => .fail) := by
  unfold lookupVar Spec.lookup
  by_cases h0 : n.index = 0
  · simp [h0]
  · rw [if_neg h0, ← getElem?_from_end env _ h0]
    by_cases h : n.index ≤ env.length
    · rw [if_pos h, if_pos h]; rfl
    · rw [if_neg h, if_neg h]

theorem transferArgStack_eq (fields : List Value) (ctx : Ctx) :
    transferArgStack fields ctx = Spec.pushArgs fields ctx := by
  unfold transferArgStack Spec.pushArgs
  induction fields generalizing ctx with
  | nil => rfl
  | cons v vs ih =>
    simp only [List.reverse_cons, List.foldl_append, List.foldl_cons, List.foldl_nil, List.map_cons,
      List.cons_append]
    rw [ih]

theorem substEnv_eq_joint (env : List NTerm) :
    (∀ (t : NTerm) (d : Nat), substEnv d env t = Spec.subst d env t) ∧
    (∀ (ts : List NTerm) (d : Nat), substEnv.substEnvList d env ts = Spec.subst.substList d env ts) := by
  apply term_ind
  case var =>
    intro n d
    unfold substEnv Spec.subst
    by_cases h : n.index ≤ d
    · simp [h]
    · rw [if_neg h, if_neg h, ← getElem?_from_end env _ (by omega : n.index - d ≠ 0)]
      by_cases hk : n.index - d ≤ env.length
      · rw [if_pos hk, if_pos hk]; rfl
      · rw [if_neg hk, if_neg hk]
  case lam =>
    intro n b ih d
    simp only [substEnv, Spec.subst, ih]
  case app | case | cons =>
    intro _ _ ih1 ih2 d
    simp only [substEnv, substEnv.substEnvList, Spec.subst, Spec.subst.substList, ih1, ih2]
  case delay | force =>
    intro _ ih d
    simp only [substEnv, Spec.subst, ih]
  case constr =>
    intro _ _ ih d
    simp only [substEnv, Spec.subst, ih]
  all_goals intros; rfl

theorem substEnv_eq (d : Nat) (env : List NTerm) (t : NTerm) : substEnv d env t = Spec.subst d env t :=
  (substEnv_eq_joint env).1 t d

theorem substEnvList_eq (d : Nat) (env : List NTerm) (ts : List NTerm) :
    substEnv.substEnvList d env ts = Spec.subst.substList d env ts :=
  (substEnv_eq_joint env).2 ts d

mutual
  theorem valueAsTerm_eq (v : Value) : valueAsTerm v = Spec.discharge v := by
    cases v with
    | con c => simp [valueAsTerm, Spec.discharge]
    | delay body env =>
      simp only [valueAsTerm, Spec.discharge, substEnv]
      rw [valueAsTermList_eq, substEnv_eq]
    | lam n body env =>
      simp only [valueAsTerm, Spec.discharge, substEnv]
      rw [valueAsTermList_eq, substEnv_eq]
    | builtin b f args =>
      simp only [valueAsTerm, Spec.discharge]
      rw [valueAsTermList_eq]
    | constr tag fs =>
      simp only [valueAsTerm, Spec.discharge]
      rw [valueAsTermList_eq]
  theorem valueAsTermList_eq (vs : List Value) : valueAsTermList vs = Spec.dischargeList vs := by
    cases vs with
    | nil => simp [valueAsTermList, Spec.dischargeList]
    | cons v vs =>
      simp only [valueAsTermList, Spec.dischargeList]
      rw [valueAsTerm_eq, valueAsTermList_eq]
end

end AikenVerif
