import AikenVerif.Model.Text
/-! Helper lemmas for C15: numbers, hex, string escapes (character level). -/
namespace AikenVerif.Text
open AikenVerif.Gen.TextTables

theorem fuel_succ {n f : Nat} (h : n + 1 ≤ f) : ∃ g, f = g + 1 ∧ n ≤ g := ⟨f - 1, by omega, by omega⟩

theorem digitChar_toNat : ∀ d, d < 10 → (digitChar d).toNat = 48 + d := by decide

theorem digitChar_isDigit : ∀ d, d < 10 → isDigit (digitChar d) = true := by decide

theorem digitChar_isIdentChar : ∀ d, d < 10 → isIdentChar (digitChar d) = true := by decide

theorem ne_of_isDigit {c k : Char} (h : isDigit c = true) (hk : isDigit k = false) : c ≠ k := by
  rintro rfl
  simp [h] at hk

theorem takeWhile_all {α} (p : α → Bool) (l : List α) (h : ∀ x ∈ l, p x = true) : l.takeWhile p = l := by
  induction l with
  | nil => rfl
  | cons a l ih => simp [List.takeWhile, h a (by simp), ih (fun x hx => h x (by simp [hx]))]

theorem dropWhile_all {α} (p : α → Bool) (l : List α) (h : ∀ x ∈ l, p x = true) : l.dropWhile p = [] := by
  induction l with
  | nil => rfl
  | cons a l ih => simp [List.dropWhile, h a (by simp), ih (fun x hx => h x (by simp [hx]))]

theorem digitsLE_lt (n : Nat) : ∀ d ∈ digitsLE n, d < 10 := by
  fun_induction digitsLE n with
  | case1 n h => intro d hd; simp at hd; omega
  | case2 n h ih =>
    intro d hd
    simp at hd
    rcases hd with rfl | hd
    · omega
    · exact ih d hd

theorem digitsLE_ne_nil (n : Nat) : digitsLE n ≠ [] := by
  unfold digitsLE; split <;> simp

theorem natChars_ne_nil (n : Nat) : natChars n ≠ [] := by
  simp [natChars, digitsLE_ne_nil]

theorem natChars_all_digit (n : Nat) : ∀ c ∈ natChars n, isDigit c = true := by
  intro c hc
  simp [natChars] at hc
  obtain ⟨d, hd, rfl⟩ := hc
  exact digitChar_isDigit d (digitsLE_lt n d hd)

theorem digitsVal_append_single (cs : List Char) (c : Char) :
    digitsVal (cs ++ [c]) = digitsVal cs * 10 + (c.toNat - 48) := by
  simp [digitsVal, List.foldl_append]

theorem natChars_step (n : Nat) (h : ¬ n < 10) : natChars n = natChars (n / 10) ++ [digitChar (n % 10)] := by
  rw [natChars, digitsLE]
  simp [h, natChars]

theorem natChars_small (n : Nat) (h : n < 10) : natChars n = [digitChar n] := by
  rw [natChars, digitsLE]
  simp [h]

theorem digitsVal_natChars (n : Nat) : digitsVal (natChars n) = n := by
  induction n using Nat.strongRecOn with
  | _ n ih =>
    by_cases h : n < 10
    · rw [natChars_small n h]
      simp [digitsVal, digitChar_toNat n h]
    · rw [natChars_step n h, digitsVal_append_single, ih (n / 10) (by omega),
        digitChar_toNat _ (by omega)]
      omega

theorem allDigits_natChars (n : Nat) : allDigits (natChars n) = true := by
  simp only [allDigits, Bool.and_eq_true, Bool.not_eq_true', List.all_eq_true]
  refine ⟨?_, natChars_all_digit n⟩
  cases h : natChars n with
  | nil => exact absurd h (natChars_ne_nil n)
  | cons => rfl

/-- `number_roundtrip`, unsigned part (`decimal()` is a 64-bit `usize`) -/
theorem parseDecimal_natChars (n : Nat) (h : n < 2 ^ 64) : parseDecimal (natChars n) = some n := by
  simp [parseDecimal, allDigits_natChars, digitsVal_natChars, h]

theorem natChars_head (n : Nat) : ∃ c cs, natChars n = c :: cs ∧ isDigit c = true := by
  cases h : natChars n with
  | nil => exact absurd h (natChars_ne_nil n)
  | cons c cs => exact ⟨c, cs, rfl, natChars_all_digit n c (by simp [h])⟩

theorem bigUintParse_natChars (n : Nat) : bigUintParse (natChars n) = some n := by
  obtain ⟨c, cs, hc, hd⟩ := natChars_head n
  have ha := allDigits_natChars n
  have hv := digitsVal_natChars n
  rw [hc] at ha hv ⊢
  simp [bigUintParse, ne_of_isDigit (k := '+') hd rfl, ha, hv]

theorem bigIntParse_natChars (n : Nat) : bigIntParse (natChars n) = some (Int.ofNat n) := by
  obtain ⟨c, cs, hc, hd⟩ := natChars_head n
  have hb := bigUintParse_natChars n
  rw [hc] at hb ⊢
  simp [bigIntParse, ne_of_isDigit (k := '-') hd rfl, hb]

theorem isNumberWord_natChars (n : Nat) : isNumberWord (natChars n) = true := by
  obtain ⟨c, cs, hc, hd⟩ := natChars_head n
  have := allDigits_natChars n
  rw [hc] at this ⊢
  have h1 : (c == '-') = false := by simpa using ne_of_isDigit (k := '-') hd rfl
  have h2 : (c == '+') = false := by simpa using ne_of_isDigit (k := '+') hd rfl
  simp [isNumberWord, List.dropWhile, h1, h2, this]

/-- `number_roundtrip`: `BigInt::to_string` is read back by `big_number()` -/
theorem parseBigNumber_intChars (i : Int) : parseBigNumber (intChars i) = some i := by
  cases i with
  | ofNat n =>
    obtain ⟨c, cs, hc, hd⟩ := natChars_head n
    have h1 := isNumberWord_natChars n
    have h2 := bigIntParse_natChars n
    simp only [intChars]
    rw [hc] at h1 h2 ⊢
    simp [parseBigNumber, ne_of_isDigit (k := '-') hd rfl, h1, h2]
  | negSucc n =>
    have h1 : isNumberWord ('-' :: natChars (n + 1)) = true := by
      simpa [isNumberWord, List.dropWhile] using isNumberWord_natChars (n + 1)
    simp [intChars, parseBigNumber, h1, bigIntParse_natChars (n + 1)]
    rfl

theorem intChars_head (i : Int) : ∃ c cs, intChars i = c :: cs ∧ (isDigit c = true ∨ c = '-') := by
  cases i with
  | ofNat n =>
    obtain ⟨c, cs, hc, hd⟩ := natChars_head n
    exact ⟨c, cs, hc, Or.inl hd⟩
  | negSucc n => exact ⟨'-', _, rfl, Or.inr rfl⟩

theorem splitOnDot_digits (ds : List Char) (hds : ∀ c ∈ ds, isDigit c = true) (acc tl : List Char) :
    splitOnDot acc (ds ++ tl) = splitOnDot (ds.reverse ++ acc) tl := by
  induction ds generalizing acc with
  | nil => rfl
  | cons d ds ih =>
    have hd : (d == '.') = false := by simpa using ne_of_isDigit (k := '.') (hds d (by simp)) rfl
    simp [splitOnDot, hd, ih (fun c hc => hds c (by simp [hc]))]

theorem parseVersion_versionChars (v : Nat × Nat × Nat)
    (h1 : v.1 < 2 ^ 64) (h2 : v.2.1 < 2 ^ 64) (h3 : v.2.2 < 2 ^ 64) :
    parseVersion (versionChars v) = some v := by
  obtain ⟨a, b, c⟩ := v
  have e : splitOnDot [] (versionChars (a, b, c)) = [natChars a, natChars b, natChars c] := by
    have hc := splitOnDot_digits _ (natChars_all_digit c) [] []
    rw [List.append_nil] at hc
    simp [versionChars, splitOnDot_digits _ (natChars_all_digit _), splitOnDot, hc]
  simp at h1 h2 h3
  simp [parseVersion, e, parseDecimal_natChars, h1, h2, h3]

theorem hexVal_hexLower : ∀ n, n < 16 → hexVal (hexLower n) = some n := by decide

theorem hexLower_isIdentChar : ∀ n, n < 16 → isIdentChar (hexLower n) = true := by decide

theorem hexLower_plain : ∀ n, n < 16 → hexLower n ≠ '\\' ∧ hexLower n ≠ '"' := by decide

/-- `hex::decode (hex::encode b) = b` -/
theorem hexDecode_hexChars (b : Bytes) : hexDecode (hexChars b) = some b := by
  induction b with
  | nil => rfl
  | cons x b ih =>
    have hx : x.toNat < 256 := x.toNat_lt
    have e : hexChars (x :: b) = hexLower (x.toNat / 16) :: hexLower (x.toNat % 16) :: hexChars b := by
      simp [hexChars]
    rw [e, hexDecode, hexVal_hexLower _ (by omega), hexVal_hexLower _ (by omega)]
    simp only [hexChars] at ih
    simp only [hexChars, ih]
    have : x.toNat / 16 * 16 + x.toNat % 16 = x.toNat := by omega
    simp [this]

theorem hexChars_all_ident (b : Bytes) : (hexChars b).all isIdentChar = true := by
  simp only [List.all_eq_true, hexChars, List.mem_flatMap]
  rintro c ⟨x, -, hc⟩
  have hx : x.toNat < 256 := x.toNat_lt
  simp at hc
  rcases hc with rfl | rfl
  · exact hexLower_isIdentChar _ (by omega)
  · exact hexLower_isIdentChar _ (by omega)

theorem parseBlsWord_blsWord (b : Bytes) : parseBlsWord (blsWord b) = some b := by
  simp [parseBlsWord, blsWord, hexChars_all_ident, hexDecode_hexChars]

theorem character_plain (f : Nat) (c : Char) (tail : List Char) (h1 : c ≠ '\\') (h2 : c ≠ '"') :
    character f (c :: tail) = some (c, tail) := by
  cases f <;> simp [character, charStep, h1, h2]

theorem character_simple (f : Nat) (k e : Char) (tail : List Char) (h : simpleEscape k = some e) :
    character f ('\\' :: k :: tail) = some (e, tail) := by
  cases f <;> simp [character, charStep, h]

theorem simpleEscape_x : simpleEscape 'x' = none := by decide

theorem character_hex (f : Nat) (a b : Nat) (ha : a < 16) (hb : b < 16) (tail : List Char) :
    character (f + 1) ('\\' :: 'x' :: hexLower a :: hexLower b :: tail) = some (Char.ofNat (a * 16 + b), tail) := by
  have h1 := character_plain f (hexLower a) (hexLower b :: tail) (hexLower_plain a ha).1 (hexLower_plain a ha).2
  have h2 := character_plain f (hexLower b) tail (hexLower_plain b hb).1 (hexLower_plain b hb).2
  simp [character, charStep, hexEscape, simpleEscape_x, h1, h2, hexVal_hexLower a ha, hexVal_hexLower b hb]

theorem simpleEscape_table :
    simpleEscape 't' = some '\t' ∧ simpleEscape 'r' = some '\r' ∧ simpleEscape 'n' = some '\n' ∧
    simpleEscape '\'' = some '\'' ∧ simpleEscape '"' = some '"' ∧ simpleEscape '\\' = some '\\' := by
  decide

/-- the three shapes of `escape_default` on a byte: a simple escape `\\k` that `character()` maps back to the
byte, the byte itself (then it is neither `\\` nor `"`), or `\\xHH` -/
theorem asciiEscapeDefault_cases (n : Nat) :
    (∃ k, asciiEscapeDefault n = ['\\', k] ∧ simpleEscape k = some (Char.ofNat n)) ∨
    (asciiEscapeDefault n = [Char.ofNat n] ∧ n ≠ 92 ∧ n ≠ 34) ∨
    asciiEscapeDefault n = ['\\', 'x', hexLower (n / 16), hexLower (n % 16)] := by
  unfold asciiEscapeDefault
  by_cases h : n = 9 ∨ n = 13 ∨ n = 10 ∨ n = 39 ∨ n = 34 ∨ n = 92
  · rcases h with rfl | rfl | rfl | rfl | rfl | rfl <;> exact .inl ⟨_, rfl, by decide⟩
  · simp only [not_or] at h
    obtain ⟨h1, h2, h3, h4, h5, h6⟩ := h
    simp only [h1, h2, h3, h4, h5, h6, if_false]
    split
    · exact .inr (.inl ⟨rfl, h6, h5⟩)
    · exact .inr (.inr rfl)

theorem character_ascii (f : Nat) (c : Char) (hc : c.toNat < 128) (tail : List Char) :
    character (f + 1) (asciiEscapeDefault c.toNat ++ tail) = some (c, tail) := by
  rcases asciiEscapeDefault_cases c.toNat with ⟨k, e, hk⟩ | ⟨e, h1, h2⟩ | e <;> rw [e]
  · rw [Char.ofNat_toNat] at hk
    exact character_simple _ _ _ _ hk
  · rw [Char.ofNat_toNat]
    exact character_plain _ _ _ (fun e => h1 (by rw [e]; rfl)) (fun e => h2 (by rw [e]; rfl))
  · have e16 : c.toNat / 16 * 16 + c.toNat % 16 = c.toNat := by omega
    have := character_hex f (c.toNat / 16) (c.toNat % 16) (by omega) (by omega) tail
    rwa [e16, Char.ofNat_toNat] at this

theorem escapeMode_fixed : stringEscapeMode = .asciiEscapeDefaultElseRaw := by decide

/-- escaped as pretty.rs does, read by `character()` -/
theorem character_escapeChar (f : Nat) (c : Char) (tail : List Char) :
    character (f + 1) (escapeChar stringEscapeMode c ++ tail) = some (c, tail) := by
  rw [escapeMode_fixed]
  simp only [escapeChar]
  split
  · rename_i h; exact character_ascii f c h tail
  · rename_i h
    apply character_plain
    · intro e; rw [e] at h; exact h (by decide)
    · intro e; rw [e] at h; exact h (by decide)

theorem escapeChar_length_pos (c : Char) : 1 ≤ (escapeChar stringEscapeMode c).length := by
  rw [escapeMode_fixed]
  simp only [escapeChar]
  split
  · rcases asciiEscapeDefault_cases c.toNat with ⟨k, e, -⟩ | ⟨e, -⟩ | e <;> simp [e]
  · simp

theorem unescapeQ_escape (s : List Char) (rest : List Char) (fuel : Nat) (hf : s.length + 1 ≤ fuel) :
    unescapeQ fuel (escape s ++ '"' :: rest) = some (s, rest) := by
  induction s generalizing fuel with
  | nil =>
    obtain ⟨f, rfl, -⟩ := fuel_succ hf
    simp [escape, escapeWith, unescapeQ, character, charStep]
  | cons c s ih =>
    obtain ⟨f, rfl, hs⟩ := fuel_succ hf
    have e : escape (c :: s) ++ '"' :: rest = escapeChar stringEscapeMode c ++ (escape s ++ '"' :: rest) := by
      simp [escape, escapeWith]
    -- `unescapeQ` gives `character` the length of its input as fuel; the input begins with an escape, which is not empty
    obtain ⟨g, hg, -⟩ := fuel_succ (List.length_append ▸ Nat.le_add_right_of_le (escapeChar_length_pos c))
    rw [e]
    simp only [unescapeQ]
    rw [hg, character_escapeChar g c]
    simp [ih f hs]

theorem escape_length (s : List Char) : s.length ≤ (escape s).length := by
  induction s with
  | nil => simp [escape, escapeWith]
  | cons c s ih =>
    have := escapeChar_length_pos c
    simp [escape, escapeWith] at ih ⊢
    omega

/-- `string_escape_roundtrip` -/
theorem unescape_escape (s : List Char) : unescape (escape s) = some s := by
  unfold unescape
  rw [unescapeQ_escape s [] _ (by have := escape_length s; omega)]

/-- `escape_default` writes the new-line byte as `\\n` -/
theorem asciiEscapeDefault_no_newline : ∀ n, n < 128 → '\n' ∉ asciiEscapeDefault n := by decide +kernel

theorem escape_no_newline (s : List Char) : '\n' ∉ escape s := by
  unfold escape escapeWith
  rw [escapeMode_fixed]
  simp only [List.mem_flatMap, not_exists, not_and]
  intro c _
  simp only [escapeChar]
  split
  · rename_i h; exact asciiEscapeDefault_no_newline _ h
  · rename_i h
    simp only [List.mem_singleton]
    intro e; rw [← e] at h; exact h (by decide)

end AikenVerif.Text
