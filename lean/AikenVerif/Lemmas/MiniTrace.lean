import AikenVerif.Lemmas.Mini
/-!
Trace erasure on the MiniAiken source semantics (C14): if every trace label / argument of a
program is a literal, the outcome (value or abort) does not depend on the trace mode.
-/
namespace AikenVerif.Mini

theorem bind_out {α β} (x : M α) (f : α → M β) :
    (bind x f).1 = match x.1 with
      | .val a => (f a).1
      | .abort => .abort
      | .outOfFuel => .outOfFuel
      | .stuck => .stuck := by
  obtain ⟨o, l⟩ := x
  cases o <;> rfl

/-- same outcome when neither side ran out of fuel; the traces are not compared (unlike `Le`, which
equates the whole pair), since the two sides are programs that trace differently. -/
def Rel {α} (x y : M α) : Prop := x.1 ≠ Outcome.outOfFuel → y.1 ≠ Outcome.outOfFuel → x.1 = y.1

theorem Rel.refl {α} (x : M α) : Rel x x := fun _ _ => rfl

theorem Rel_bind {α β} {x y : M α} {f g : α → M β} (h : Rel x y) (hf : ∀ a, Rel (f a) (g a)) :
    Rel (bind x f) (bind y g) := by
  obtain ⟨ox, lx⟩ := x
  obtain ⟨oy, ly⟩ := y
  intro hx hy
  -- neither `bind` ran out of fuel, so neither head did, and the heads agree
  have hxy : ox = oy := h (by rintro ⟨⟩; exact hx rfl) (by rintro ⟨⟩; exact hy rfl)
  subst hxy
  cases ox with
  | val a => exact hf a hx hy
  | _ => rfl

theorem eval_lit_cases (P : Program) (m : Mode) (n : Nat) (env : Env) (e : Expr) (h : isLit e = true) :
    eval P m n env e = oof ∨ ∃ v, eval P m n env e = ret v := by
  cases e with
  | lit l =>
    cases n with
    | zero => exact .inl rfl
    | succ n => exact .inr ⟨litVal l, rfl⟩
  | _ => cases h

theorem evalList_lits_cases (P : Program) (m : Mode) (env : Env) (es : List Expr) (h : es.all isLit = true)
    (n : Nat) : evalList P m n env es = oof ∨ ∃ vs, evalList P m n env es = ret vs := by
  induction es generalizing n with
  | nil =>
    cases n with
    | zero => exact .inl rfl
    | succ n => exact .inr ⟨[], rfl⟩
  | cons e es ih =>
    obtain ⟨he, hes⟩ := Bool.and_eq_true_iff.mp h
    cases n with
    | zero => exact .inl rfl
    | succ n =>
      show bind (eval P m n env e) _ = oof ∨ ∃ vs, bind (eval P m n env e) _ = ret vs
      rcases eval_lit_cases P m n env e he with he | ⟨v, he⟩
      · rw [he]
        exact .inl rfl
      · rcases ih hes n with hl | ⟨vs, hl⟩
        · rw [he, hl]
          exact .inl rfl
        · rw [he, hl]
          exact .inr ⟨v :: vs, rfl⟩

theorem trace_out (P : Program) (m : Mode) (n : Nat) (env : Env) (l : Expr) (args : List Expr) (b : Expr)
    (hl : isLit l = true) (ha : args.all isLit = true) :
    (eval P m (n + 1) env (.trace l args b)).1 = Outcome.outOfFuel ∨
    (eval P m (n + 1) env (.trace l args b)).1 = (eval P m n env b).1 := by
  cases m with
  | silent => exact .inr rfl
  | compact =>
    have step : eval P .compact (n + 1) env (.trace l args b) =
        bind (eval P .compact n env l) fun lv => bind (emit lv) fun _ => eval P .compact n env b := rfl
    rw [step]
    rcases eval_lit_cases P .compact n env l hl with he | ⟨v, he⟩
    · rw [he]; exact .inl rfl
    · rw [he]; exact .inr (by simp only [ret, emit, bind_val])
  | verbose =>
    have step : eval P .verbose (n + 1) env (.trace l args b) =
        bind (eval P .verbose n env l) fun lv => bind (evalList P .verbose n env args) fun avs =>
          bind (emit (.tuple (lv :: avs))) fun _ => eval P .verbose n env b := rfl
    rw [step]
    rcases eval_lit_cases P .verbose n env l hl with he | ⟨v, he⟩
    · rw [he]; exact .inl rfl
    · rcases evalList_lits_cases P .verbose env args ha n with hl' | ⟨vs, hl'⟩
      · rw [he, hl']; exact .inl rfl
      · rw [he, hl']; exact .inr (by simp only [ret, emit, bind_val])

theorem traceIfFalse_out (P : Program) (m : Mode) (n : Nat) (env : Env) (a : Expr) :
    (eval P m (n + 1) env (.traceIfFalse a)).1 = (eval P m n env a).1 := by
  show (bind (eval P m n env a) _).1 = _
  rw [bind_out]
  generalize (eval P m n env a).1 = o
  cases o with
  | val v => dsimp only; split <;> rfl
  | _ => rfl

theorem firstMatch_labelsTotal (v : Val) (cs : List (Pat × Expr)) (bs : Env) (b : Expr)
    (hc : labelsTotalClauses cs = true) (h : firstMatch v cs = some (bs, b)) : labelsTotal b = true := by
  induction cs with
  | nil => cases h
  | cons c cs ih =>
    obtain ⟨hb, hcs⟩ := Bool.and_eq_true_iff.mp hc
    rw [firstMatch_cons] at h
    split at h
    · cases h
      exact hb
    · exact ih hcs h

theorem fns_labelsTotal (P : Program) (hP : P.labelsTotal = true) (f : Nat) (xs : List Nat) (body : Expr)
    (h : P.fns[f]? = some (xs, body)) : labelsTotal body = true :=
  List.all_eq_true.mp (Bool.and_eq_true_iff.mp hP).1 (xs, body) (List.mem_of_getElem? h)

theorem lams_labelsTotal (P : Program) (hP : P.labelsTotal = true) (i : Nat) (xs : List Nat) (body : Expr)
    (h : P.lams[i]? = some (xs, body)) : labelsTotal body = true :=
  List.all_eq_true.mp (Bool.and_eq_true_iff.mp hP).2 (xs, body) (List.mem_of_getElem? h)

/-- As for fuel monotonicity each case follows the evaluator's binds with `Rel_bind`; `labelsTotal`
of a former is definitionally the conjunction over its parts.  The two tracing formers are the only
ones where the modes differ: there both sides have the outcome of the continuation. -/
theorem erasure_step (P : Program) (hP : P.labelsTotal = true) (m m' : Mode) :
    ∀ n, (∀ env e, labelsTotal e = true → Rel (eval P m n env e) (eval P m' n env e)) ∧
         (∀ env es, labelsTotalList es = true → Rel (evalList P m n env es) (evalList P m' n env es)) := by
  intro n
  induction n with
  | zero => exact ⟨fun _ _ _ => Rel.refl _, fun _ _ _ => Rel.refl _⟩
  | succ n ih =>
    obtain ⟨ihE, ihL⟩ := ih
    refine ⟨fun env e he => ?_, fun env es hes => ?_⟩
    · cases e with
      | lit _ | var _ | lam _ | fnref _ | fail _ => exact Rel.refl _
      | letE x used a b =>
        obtain ⟨ha, hb⟩ := Bool.and_eq_true_iff.mp he
        cases used
        · exact ihE _ _ hb
        · exact Rel_bind (ihE _ _ ha) fun _ => ihE _ _ hb
      | ite c t f =>
        obtain ⟨hct, hf⟩ := Bool.and_eq_true_iff.mp he
        obtain ⟨hc, ht⟩ := Bool.and_eq_true_iff.mp hct
        refine Rel_bind (ihE _ _ hc) fun v => ?_
        split
        · exact ihE _ _ ht
        · exact ihE _ _ hf
        · exact Rel.refl _
      | and a b =>
        obtain ⟨ha, hb⟩ := Bool.and_eq_true_iff.mp he
        refine Rel_bind (ihE _ _ ha) fun v => ?_
        split
        · exact ihE _ _ hb
        · exact Rel.refl _
        · exact Rel.refl _
      | or a b =>
        obtain ⟨ha, hb⟩ := Bool.and_eq_true_iff.mp he
        refine Rel_bind (ihE _ _ ha) fun v => ?_
        split
        · exact Rel.refl _
        · exact ihE _ _ hb
        · exact Rel.refl _
      | un op a => exact Rel_bind (ihE _ _ he) fun _ => Rel.refl _
      | bin op a b =>
        obtain ⟨ha, hb⟩ := Bool.and_eq_true_iff.mp he
        exact Rel_bind (ihE _ _ ha) fun _ => Rel_bind (ihE _ _ hb) fun _ => Rel.refl _
      | tuple es | list es | con _ es => exact Rel_bind (ihL _ _ he) fun _ => Rel.refl _
      | call f es =>
        refine Rel_bind (ihL _ _ he) fun vs => ?_
        split
        · rename_i xs body hf
          split
          · exact ihE _ _ (fns_labelsTotal P hP f xs body hf)
          · exact Rel.refl _
        · exact Rel.refl _
      | app f es =>
        obtain ⟨hf, hes⟩ := Bool.and_eq_true_iff.mp he
        refine Rel_bind (ihE _ _ hf) fun fv => Rel_bind (ihL _ _ hes) fun vs => ?_
        cases fv with
        | clo i cenv =>
          dsimp only
          split
          · rename_i xs body hi
            split
            · exact ihE _ _ (lams_labelsTotal P hP i xs body hi)
            · exact Rel.refl _
          · exact Rel.refl _
        | fn g =>
          dsimp only
          split
          · rename_i xs body hg
            split
            · exact ihE _ _ (fns_labelsTotal P hP g xs body hg)
            · exact Rel.refl _
          · exact Rel.refl _
        | _ => exact Rel.refl _
      | «when» s cs =>
        obtain ⟨hs, hcs⟩ := Bool.and_eq_true_iff.mp he
        refine Rel_bind (ihE _ _ hs) fun v => ?_
        split
        · rename_i bs b hfm
          exact ihE _ _ (firstMatch_labelsTotal v cs bs b hcs hfm)
        · exact Rel.refl _
      | expect p a b =>
        obtain ⟨ha, hb⟩ := Bool.and_eq_true_iff.mp he
        refine Rel_bind (ihE _ _ ha) fun v => ?_
        split
        · exact ihE _ _ hb
        · exact Rel.refl _
      | trace label args body =>
        obtain ⟨hla, hb⟩ := Bool.and_eq_true_iff.mp he
        obtain ⟨hl, ha⟩ := Bool.and_eq_true_iff.mp hla
        intro hx hy
        have h₁ := (trace_out P m n env label args body hl ha).resolve_left hx
        have h₂ := (trace_out P m' n env label args body hl ha).resolve_left hy
        rw [h₁, h₂]
        exact ihE env body hb (h₁ ▸ hx) (h₂ ▸ hy)
      | traceIfFalse a =>
        intro hx hy
        simp only [traceIfFalse_out] at hx hy ⊢
        exact ihE env a he hx hy
    · cases es with
      | nil => exact Rel.refl _
      | cons e es =>
        obtain ⟨he, hes⟩ := Bool.and_eq_true_iff.mp hes
        exact Rel_bind (ihE _ _ he) fun _ => Rel_bind (ihL _ _ hes) fun _ => Rel.refl _

end AikenVerif.Mini
