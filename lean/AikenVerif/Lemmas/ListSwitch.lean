import AikenVerif.Model.ListSwitch
/-!
The list-length dispatch of a compiled `when` (C07): with the cases selected by length
(`dispatchFixed`), a list of length `L` is handled by exactly the rows whose list pattern
admits length `L`, in source order.
-/
namespace AikenVerif.ListSwitch

/-- row shape `rc` belongs to the case matrix of `c` -/
def compat : LCase → LCase → Bool
  | .wild, .wild => false
  | .wild, _ => true
  | .tail t, .list k => decide (t ≤ k)
  | .tail t, .tail k => decide (t ≤ k)
  | .list n, .list k => decide (n = k)
  | _, _ => false

/-- indices of the rows of `pre` that belong to case `c`; of its wildcard rows; the cases present -/
def sel (c : LCase) (pre : List Row) : List Nat := (pre.filter (fun r => compat r.1 c)).map (·.2)
def wildsOf (pre : List Row) : List Nat := (pre.filter (fun r => decide (r.1 = .wild))).map (·.2)
def keys (cs : Cases) : List LCase := cs.map (·.1)

/-- `case_matrices.find(case)` -/
def entry (c : LCase) (cs : Cases) : Option (List Nat) := (cs.find? (fun e => e.1 = c)).map (·.2)

/-- the cases `do_build_tree` makes: lengths up to the longest pattern of the same kind -/
def IsCase (nt wt : Option Nat) : LCase → Prop
  | .wild => False
  | .list k => ∃ m, nt = some m ∧ k ≤ m
  | .tail k => ∃ m, wt = some m ∧ k ≤ m

/-- `do_build_tree` adds a row of shape `rc` to the case `c` -/
def PushedTo (nt wt : Option Nat) (rc c : LCase) : Prop :=
  rc ≠ .wild ∧ compat rc c = true ∧ IsCase nt wt c

theorem sel_append (c : LCase) (pre : List Row) (r : Row) :
    sel c (pre ++ [r]) = sel c pre ++ (if compat r.1 c then [r.2] else []) := by
  simp only [sel, List.filter_append, List.map_append]
  by_cases h : compat r.1 c = true <;> simp [h]

theorem wildsOf_append (pre : List Row) (r : Row) :
    wildsOf (pre ++ [r]) = wildsOf pre ++ (if r.1 = .wild then [r.2] else []) := by
  simp only [wildsOf, List.filter_append, List.map_append]
  by_cases h : r.1 = .wild <;> simp [h]

theorem compat_wild {nt wt : Option Nat} {c : LCase} (hb : IsCase nt wt c) : compat .wild c = true := by
  cases c with
  | wild => cases hb
  | list k => rfl
  | tail k => rfl

theorem compat_self {c : LCase} (h : c ≠ .wild) : compat c c = true := by
  cases c <;> simp [compat] at h ⊢

theorem compat_list {n : Nat} {c : LCase} (h : compat (.list n) c = true) : c = .list n := by
  cases c <;> simp_all [compat]

/-! Which rows a list of length `L` is offered, by the case that is selected for it: the case `List(L)`;
or, when no row has shape `List(L)`, the longest `ListWithTail(m)` with `m ≤ L`; or, when in
addition no tail row fits, the default matrix. -/

theorem compat_list_admits (rc : LCase) (L : Nat) : compat rc (.list L) = rc.admits L := by
  cases rc <;> simp [compat, LCase.admits]

theorem compat_tail_admits {rc : LCase} {m L : Nat} (hm : m ≤ L) (hl : rc ≠ .list L)
    (ht : ∀ t, rc = .tail t → t ≤ L → t ≤ m) : compat rc (.tail m) = rc.admits L := by
  cases rc with
  | wild => rfl
  | list n => simpa [compat, LCase.admits] using hl
  | tail t =>
    simp only [compat, LCase.admits, decide_eq_decide]
    exact ⟨fun h => Nat.le_trans h hm, ht t rfl⟩

theorem wild_admits {rc : LCase} {L : Nat} (hl : rc ≠ .list L) (ht : ∀ t, rc = .tail t → ¬ t ≤ L) :
    decide (rc = .wild) = rc.admits L := by
  cases rc with
  | wild => rfl
  | list n => simpa [LCase.admits] using hl
  | tail t => simpa [LCase.admits] using ht t rfl

theorem longestNoTail_ge {rows : List Row} {n i : Nat} (h : (LCase.list n, i) ∈ rows) :
    ∃ m, longestNoTail rows = some m ∧ n ≤ m := by
  induction rows with
  | nil => cases h
  | cons r rows ih =>
    obtain ⟨rc, j⟩ := r
    rcases List.mem_cons.mp h with e | h
    · cases e
      simp only [longestNoTail]
      split
      · exact ⟨_, rfl, Nat.le_max_left _ _⟩
      · exact ⟨_, rfl, Nat.le_refl _⟩
    · obtain ⟨m, hm, hle⟩ := ih h
      cases rc with
      | list n' => exact ⟨max n' m, by simp [longestNoTail, hm], Nat.le_trans hle (Nat.le_max_right _ _)⟩
      | wild | tail _ => exact ⟨m, by simp [longestNoTail, hm], hle⟩

theorem longestWithTail_ge {rows : List Row} {n i : Nat} (h : (LCase.tail n, i) ∈ rows) :
    ∃ m, longestWithTail rows = some m ∧ n ≤ m := by
  induction rows with
  | nil => cases h
  | cons r rows ih =>
    obtain ⟨rc, j⟩ := r
    rcases List.mem_cons.mp h with e | h
    · cases e
      simp only [longestWithTail]
      split
      · exact ⟨_, rfl, Nat.le_max_left _ _⟩
      · exact ⟨_, rfl, Nat.le_refl _⟩
    · obtain ⟨m, hm, hle⟩ := ih h
      cases rc with
      | tail n' => exact ⟨max n' m, by simp [longestWithTail, hm], Nat.le_trans hle (Nat.le_max_right _ _)⟩
      | wild | list _ => exact ⟨m, by simp [longestWithTail, hm], hle⟩

theorem isCase_of_mem {rows : List Row} {r : Row} (hr : r ∈ rows) (hw : r.1 ≠ .wild) :
    IsCase (longestNoTail rows) (longestWithTail rows) r.1 := by
  obtain ⟨rc, i⟩ := r
  cases rc with
  | wild => exact absurd rfl hw
  | list n => exact longestNoTail_ge hr
  | tail t => exact longestWithTail_ge hr

theorem entry_cons (c : LCase) (e : LCase × List Nat) (cs : Cases) :
    entry c (e :: cs) = if e.1 = c then some e.2 else entry c cs := by
  by_cases h : e.1 = c <;> simp [entry, h]

theorem entry_eq_none {c : LCase} {cs : Cases} : entry c cs = none ↔ c ∉ keys cs := by
  simp only [entry, keys, Option.map_eq_none_iff, List.find?_eq_none, decide_eq_true_eq, List.mem_map,
    not_exists, not_and]

theorem entry_of_mem {c : LCase} {rs : List Nat} {cs : Cases} (hn : (keys cs).Nodup)
    (h : (c, rs) ∈ cs) : entry c cs = some rs := by
  induction cs with
  | nil => cases h
  | cons e cs ih =>
    rw [entry_cons]
    simp only [keys, List.map_cons, List.nodup_cons] at hn
    rcases List.mem_cons.mp h with rfl | h
    · simp
    · have : e.1 ≠ c := fun e' => hn.1 (e' ▸ List.mem_map.mpr ⟨_, h, rfl⟩)
      rw [if_neg this]
      exact ih hn.2 h

theorem mem_of_entry {c : LCase} {rs : List Nat} {cs : Cases} (h : entry c cs = some rs) :
    (c, rs) ∈ cs := by
  simp only [entry, Option.map_eq_some_iff] at h
  obtain ⟨e, he, rfl⟩ := h
  have := List.find?_some he
  simp only [decide_eq_true_eq] at this
  exact this ▸ List.mem_of_find?_eq_some he

theorem entry_addTo (c : LCase) (i : Nat) (d : List Nat) (cs : Cases) (c' : LCase) :
    entry c' (addTo c i d cs) =
      if c' = c then some ((entry c cs).getD d ++ [i]) else entry c' cs := by
  induction cs with
  | nil =>
    by_cases h : c' = c
    · simp [addTo, entry, h]
    · have h' : ¬ c = c' := fun h' => h h'.symm
      simp [addTo, entry, h, h']
  | cons e cs ih =>
    obtain ⟨c0, rs0⟩ := e
    simp only [addTo]
    by_cases h0 : c0 = c
    · subst h0
      by_cases h : c' = c0
      · simp [entry_cons, h]
      · have h' : ¬ c0 = c' := fun h' => h h'.symm
        simp [entry_cons, h, h']
    · simp only [h0, if_false, entry_cons, ih]
      by_cases h : c' = c
      · subst h; simp [h0]
      · simp [h]

theorem keys_addTo (c : LCase) (i : Nat) (d : List Nat) (cs : Cases) :
    keys (addTo c i d cs) = if c ∈ keys cs then keys cs else keys cs ++ [c] := by
  induction cs with
  | nil => simp [addTo, keys]
  | cons e cs ih =>
    obtain ⟨c0, rs0⟩ := e
    simp only [addTo]
    by_cases h0 : c0 = c
    · simp [h0, keys]
    · have h0' : ¬ c = c0 := fun h' => h0 h'.symm
      simp only [keys, List.map_cons, List.mem_cons, h0, h0', if_false, false_or] at ih ⊢
      rw [ih]
      by_cases hc : c ∈ cs.map (·.1) <;> simp [hc]

theorem mem_keys_addTo (c : LCase) (i : Nat) (d : List Nat) (cs : Cases) (c' : LCase) :
    c' ∈ keys (addTo c i d cs) ↔ c' = c ∨ c' ∈ keys cs := by
  rw [keys_addTo]
  split
  · rename_i hc
    exact ⟨Or.inr, fun h => h.elim (fun e => e ▸ hc) id⟩
  · rw [List.mem_append, List.mem_singleton, or_comm]

theorem nodup_addTo (c : LCase) (i : Nat) (d : List Nat) {cs : Cases} (hn : (keys cs).Nodup) :
    (keys (addTo c i d cs)).Nodup := by
  rw [keys_addTo]
  split
  · exact hn
  · rename_i hc
    refine List.nodup_append.mpr ⟨hn, List.nodup_cons.mpr ⟨List.not_mem_nil, List.nodup_nil⟩, ?_⟩
    intro a ha b hb e
    rw [List.mem_singleton.mp hb] at e
    exact hc (e ▸ ha)

/-- the inner loops of `step` -/
def pushAll (i : Nat) (d : List Nat) (ks : List LCase) (cs : Cases) : Cases :=
  ks.foldl (fun cs k => addTo k i d cs) cs

theorem mem_keys_pushAll (i : Nat) (d : List Nat) (ks : List LCase) (cs : Cases) (c : LCase) :
    c ∈ keys (pushAll i d ks cs) ↔ c ∈ keys cs ∨ c ∈ ks := by
  induction ks generalizing cs with
  | nil => simp [pushAll]
  | cons k ks ih =>
    rw [show pushAll i d (k :: ks) cs = pushAll i d ks (addTo k i d cs) from rfl, ih, mem_keys_addTo,
      List.mem_cons, or_assoc, or_left_comm]

theorem nodup_pushAll (i : Nat) (d : List Nat) (ks : List LCase) {cs : Cases} (hn : (keys cs).Nodup) :
    (keys (pushAll i d ks cs)).Nodup := by
  induction ks generalizing cs with
  | nil => exact hn
  | cons k ks ih => exact ih (nodup_addTo k i d hn)

theorem entry_pushAll (i : Nat) (d : List Nat) {ks : List LCase} (hks : ks.Nodup) (cs : Cases) (c : LCase) :
    entry c (pushAll i d ks cs) =
      if c ∈ ks then some ((entry c cs).getD d ++ [i]) else entry c cs := by
  induction ks generalizing cs with
  | nil => simp [pushAll]
  | cons k ks ih =>
    obtain ⟨hk, hks⟩ := List.nodup_cons.mp hks
    rw [show pushAll i d (k :: ks) cs = pushAll i d ks (addTo k i d cs) from rfl, ih hks, entry_addTo]
    by_cases h : c ∈ ks
    · have : c ≠ k := fun e => hk (e ▸ h)
      simp [h, this]
    · by_cases h' : c = k
      · subst h'; simp [hk]
      · simp [h, h']

/-- the state of the fold in `do_build_tree` after the rows `pre` -/
structure Inv (nt wt : Option Nat) (pre : List Row) (st : List Nat × Cases) : Prop where
  dflt : st.1 = wildsOf pre
  ent : ∀ c rs, entry c st.2 = some rs → rs = sel c pre
  nd : (keys st.2).Nodup
  -- each case a row so far is added to exists; none exists beyond the longest patterns
  ex : ∀ r ∈ pre, ∀ c, PushedTo nt wt r.1 c → c ∈ keys st.2
  bd : ∀ c ∈ keys st.2, IsCase nt wt c

/-- a case that does not exist yet would hold only the wildcard rows, which is what it is started
from -/
theorem Inv.getD {nt wt : Option Nat} {pre : List Row} {st : List Nat × Cases}
    (inv : Inv nt wt pre st) {c : LCase} (hb : IsCase nt wt c) :
    (entry c st.2).getD st.1 = sel c pre := by
  cases he : entry c st.2 with
  | some rs => exact inv.ent c rs he
  | none =>
    have hn := entry_eq_none.mp he
    rw [Option.getD_none, inv.dflt]
    simp only [sel, wildsOf]
    congr 1
    apply List.filter_congr
    intro r hr
    by_cases hw : r.1 = .wild
    · simp [hw, compat_wild hb]
    · cases hc : compat r.1 c with
      | false => simp [hw]
      | true => exact absurd (inv.ex r hr c ⟨hw, hc, hb⟩) hn

theorem upto_mem (frm to k : Nat) : k ∈ upto frm to ↔ frm ≤ k ∧ k ≤ to := by
  simp only [upto, List.mem_range'_1]
  omega

def optKeys (f : Nat → LCase) (o : Option Nat) (t : Nat) : List LCase :=
  match o with
  | some m => (upto t m).map f
  | none => []

theorem mem_optKeys (f : Nat → LCase) (o : Option Nat) (t : Nat) (c : LCase) :
    c ∈ optKeys f o t ↔ ∃ k, f k = c ∧ t ≤ k ∧ ∃ m, o = some m ∧ k ≤ m := by
  cases o with
  | none => simp [optKeys]
  | some m =>
    simp only [optKeys, List.mem_map, upto_mem]
    constructor
    · rintro ⟨k, ⟨h1, h2⟩, e⟩
      exact ⟨k, e, h1, m, rfl, h2⟩
    · rintro ⟨k, e, h1, m', hm, h2⟩
      cases hm
      exact ⟨k, ⟨h1, h2⟩, e⟩

theorem nodup_optKeys {f : Nat → LCase} (hf : ∀ a b, f a = f b → a = b) (o : Option Nat) (t : Nat) :
    (optKeys f o t).Nodup := by
  cases o with
  | none => exact List.nodup_nil
  | some m => exact List.Pairwise.map f (fun a b h e => h (hf a b e)) List.nodup_range'

def tailKeys (nt wt : Option Nat) (t : Nat) : List LCase :=
  optKeys .list nt t ++ optKeys .tail wt t

theorem tailKeys_mem (nt wt : Option Nat) (t : Nat) (c : LCase) :
    c ∈ tailKeys nt wt t ↔ PushedTo nt wt (.tail t) c := by
  rw [tailKeys, List.mem_append, mem_optKeys, mem_optKeys]
  cases c <;> simp [PushedTo, compat, IsCase]

theorem tailKeys_nodup (nt wt : Option Nat) (t : Nat) : (tailKeys nt wt t).Nodup := by
  refine List.nodup_append.mpr ⟨nodup_optKeys (fun _ _ => LCase.list.inj) nt t,
    nodup_optKeys (fun _ _ => LCase.tail.inj) wt t, ?_⟩
  intro a ha b hb e
  obtain ⟨k, rfl, _⟩ := (mem_optKeys _ _ _ _).mp ha
  obtain ⟨k', rfl, _⟩ := (mem_optKeys _ _ _ _).mp hb
  cases e

theorem step_tail_eq (nt wt : Option Nat) (st : List Nat × Cases) (t i : Nat) :
    step nt wt st (.tail t, i) = (st.1, pushAll i st.1 (tailKeys nt wt t) st.2) := by
  simp only [step, tailKeys, optKeys, pushAll, List.foldl_append]
  cases nt <;> cases wt <;> simp [List.foldl_map]

theorem entry_map_append (c : LCase) (i : Nat) (cs : Cases) :
    entry c (cs.map (fun e => (e.1, e.2 ++ [i]))) = (entry c cs).map (· ++ [i]) := by
  induction cs with
  | nil => rfl
  | cons e cs ih => by_cases h : e.1 = c <;> simp [entry_cons, h, ih]

theorem step_inv {nt wt : Option Nat} {pre : List Row} {st : List Nat × Cases}
    (inv : Inv nt wt pre st) (row : Row) (hrow : row.1 ≠ .wild → IsCase nt wt row.1) :
    Inv nt wt (pre ++ [row]) (step nt wt st row) := by
  obtain ⟨rc, i⟩ := row
  -- the two non-wildcard cases: the row is pushed to the cases `ks` it belongs to
  have hpush : ∀ (ks : List LCase), ks.Nodup → (∀ c, c ∈ ks ↔ PushedTo nt wt rc c) → rc ≠ .wild →
      Inv nt wt (pre ++ [(rc, i)]) (st.1, pushAll i st.1 ks st.2) := by
    intro ks hks hmem hne
    have hkeys := mem_keys_pushAll i st.1 ks st.2
    have hbd : ∀ c ∈ keys (pushAll i st.1 ks st.2), IsCase nt wt c := by
      intro c hc
      rcases (hkeys c).mp hc with h | h
      · exact inv.bd c h
      · exact ((hmem c).mp h).2.2
    refine ⟨?_, ?_, nodup_pushAll i st.1 ks inv.nd, ?_, hbd⟩
    · show st.1 = _
      rw [wildsOf_append, inv.dflt, if_neg hne, List.append_nil]
    · intro c rs he
      have hcb : IsCase nt wt c := hbd c (List.mem_map.mpr ⟨_, mem_of_entry he, rfl⟩)
      rw [sel_append]
      rw [entry_pushAll i st.1 hks] at he
      by_cases hc : c ∈ ks
      · rw [if_pos hc, inv.getD hcb] at he
        rw [((hmem c).mp hc).2.1, if_pos rfl]
        exact (Option.some.inj he).symm
      · have : compat rc c = false := by
          cases hcc : compat rc c with
          | false => rfl
          | true => exact absurd ((hmem c).mpr ⟨hne, hcc, hcb⟩) hc
        rw [if_neg hc] at he
        rw [this, if_neg Bool.false_ne_true, List.append_nil]
        exact inv.ent c rs he
    · intro r hr c hu
      rw [hkeys c]
      rcases List.mem_append.mp hr with hr | hr
      · exact Or.inl (inv.ex r hr c hu)
      · rw [List.mem_singleton.mp hr] at hu
        exact Or.inr ((hmem c).mpr hu)
  cases rc with
  | wild =>
    have hk : keys (st.2.map (fun e => (e.1, e.2 ++ [i]))) = keys st.2 := by
      simp [keys, List.map_map, Function.comp_def]
    refine ⟨?_, ?_, hk ▸ inv.nd, ?_, hk ▸ inv.bd⟩
    · show st.1 ++ [i] = _
      rw [wildsOf_append, inv.dflt, if_pos rfl]
    · intro c rs he
      obtain ⟨rs0, he0, rfl⟩ := Option.map_eq_some_iff.mp ((entry_map_append c i st.2).symm.trans he)
      have hcb := inv.bd c (List.mem_map.mpr ⟨_, mem_of_entry he0, rfl⟩)
      rw [sel_append, compat_wild hcb, if_pos rfl, inv.ent c rs0 he0]
    · intro r hr c hu
      rw [show (step nt wt st (.wild, i)).2 = st.2.map (fun e => (e.1, e.2 ++ [i])) from rfl, hk]
      rcases List.mem_append.mp hr with hr | hr
      · exact inv.ex r hr c hu
      · rw [List.mem_singleton.mp hr] at hu
        exact absurd rfl hu.1
  | list n =>
    have hne : LCase.list n ≠ .wild := fun e => by cases e
    refine hpush [.list n] (by simp) (fun c => ?_) hne
    constructor
    · intro h
      rw [List.mem_singleton.mp h]
      exact ⟨hne, compat_self hne, hrow hne⟩
    · rintro ⟨_, hc, _⟩
      exact List.mem_singleton.mpr (compat_list hc)
  | tail t =>
    rw [step_tail_eq]
    exact hpush (tailKeys nt wt t) (tailKeys_nodup nt wt t) (tailKeys_mem nt wt t) (fun e => by cases e)

theorem foldl_inv {nt wt : Option Nat} (rest : List Row) :
    ∀ (pre : List Row) (st : List Nat × Cases), Inv nt wt pre st →
      (∀ r ∈ rest, r.1 ≠ .wild → IsCase nt wt r.1) →
      Inv nt wt (pre ++ rest) (rest.foldl (step nt wt) st) := by
  induction rest with
  | nil => intro pre st inv _; simpa using inv
  | cons r rest ih =>
    intro pre st inv hb
    have := ih (pre ++ [r]) (step nt wt st r) (step_inv inv r (hb r List.mem_cons_self))
      (fun r' h => hb r' (List.mem_cons_of_mem _ h))
    simpa [List.append_assoc] using this

theorem split_inv (rows : List Row) :
    Inv (longestNoTail rows) (longestWithTail rows) rows (split rows) := by
  have h0 : Inv (longestNoTail rows) (longestWithTail rows) [] ([], []) :=
    ⟨rfl, fun c rs h => (by cases h), List.Pairwise.nil, fun r h => (by cases h), fun c h => (by cases h)⟩
  simpa [split] using foldl_inv rows [] ([], []) h0 (fun r hr => isCase_of_mem hr)

theorem findList_some {L : Nat} {cs : Cases} {c : LCase × List Nat} (h : findList L cs = some c) :
    c.1 = .list L ∧ c ∈ cs := by
  induction cs with
  | nil => simp [findList] at h
  | cons x cs ih =>
    simp only [findList] at h
    split at h
    · rename_i e; cases h; exact ⟨e, List.mem_cons_self⟩
    · exact (ih h).imp_right (List.mem_cons_of_mem _)

theorem findList_none {L : Nat} {cs : Cases} (h : findList L cs = none) : .list L ∉ keys cs := by
  induction cs with
  | nil => simp [keys]
  | cons x cs ih =>
    simp only [findList] at h
    split at h
    · cases h
    · rename_i hne
      simp only [keys, List.map_cons, List.mem_cons, not_or]
      exact ⟨fun e => hne e.symm, ih h⟩

/-- `max_by_key` -/
theorem maxTail_spec (l : Cases) :
    match maxTail l with
    | some b => b ∈ l ∧ ∀ c ∈ l, tailLen c.1 ≤ tailLen b.1
    | none => l = [] := by
  induction l with
  | nil => rfl
  | cons x l ih =>
    rw [maxTail]
    cases hm : maxTail l with
    | none =>
      rw [hm] at ih
      simp [ih]
    | some b0 =>
      rw [hm] at ih
      obtain ⟨h1, h2⟩ := ih
      dsimp only
      by_cases hgt : tailLen x.1 > tailLen b0.1
      · rw [if_pos hgt]
        refine ⟨List.mem_cons_self, fun c hc => ?_⟩
        rcases List.mem_cons.mp hc with rfl | hc
        · exact Nat.le_refl _
        · exact Nat.le_trans (h2 c hc) (Nat.le_of_lt hgt)
      · rw [if_neg hgt]
        refine ⟨List.mem_cons_of_mem _ h1, fun c hc => ?_⟩
        rcases List.mem_cons.mp hc with rfl | hc
        · exact Nat.le_of_not_gt hgt
        · exact h2 c hc

/-- what a case contributes to `longest_pattern` -/
def reach : LCase → Nat
  | .list i => i
  | .tail i => i - 1
  | .wild => 0

/-- the lambda of `longestPattern`, copied: `longestPattern_ge` unfolds to it -/
def lpStep (longest : Nat) (c : LCase × List Nat) : Nat :=
  match c.1 with
  | .list i => if longest < i then i else longest
  | .tail i => if longest < i then i - 1 else longest
  | .wild => longest

theorem lpStep_ge (acc : Nat) (c : LCase × List Nat) : acc ≤ lpStep acc c ∧ reach c.1 ≤ lpStep acc c := by
  obtain ⟨c0, rs⟩ := c
  cases c0 with
  | wild => exact ⟨Nat.le_refl _, Nat.zero_le _⟩
  | list i =>
    simp only [lpStep, reach]
    split
    · rename_i h; exact ⟨Nat.le_of_lt h, Nat.le_refl _⟩
    · rename_i h; exact ⟨Nat.le_refl _, Nat.le_of_not_lt h⟩
  | tail i =>
    simp only [lpStep, reach]
    split
    · rename_i h; exact ⟨Nat.le_sub_one_of_lt h, Nat.le_refl _⟩
    · rename_i h; exact ⟨Nat.le_refl _, Nat.le_trans (Nat.sub_le i 1) (Nat.le_of_not_lt h)⟩

theorem longestPattern_ge (cs : Cases) : ∀ c ∈ cs, reach c.1 ≤ longestPattern cs := by
  show ∀ c ∈ cs, reach c.1 ≤ cs.foldl lpStep 0
  suffices H : ∀ acc, acc ≤ cs.foldl lpStep acc ∧ ∀ c ∈ cs, reach c.1 ≤ cs.foldl lpStep acc from (H 0).2
  induction cs with
  | nil => intro acc; simp
  | cons x cs ih =>
    intro acc
    obtain ⟨h1, h2⟩ := ih (lpStep acc x)
    refine ⟨Nat.le_trans (lpStep_ge acc x).1 h1, fun c hc => ?_⟩
    rcases List.mem_cons.mp hc with rfl | hc
    · exact Nat.le_trans (lpStep_ge acc c).2 h1
    · exact h2 c hc

theorem isTail_iff (c : LCase) : isTail c = true ↔ ∃ k, c = .tail k := by
  cases c <;> simp [isTail]

theorem dispatchFixed_eq (rows : List Row) (L : Nat) :
    dispatchFixed rows L = (rows.filter (fun r => r.1.admits L)).map (·.2) := by
  have inv := split_inv rows
  unfold dispatchFixed
  generalize split rows = st at inv ⊢
  obtain ⟨dflt, cs⟩ := st
  dsimp only at inv ⊢
  generalize htl : cs.filter (fun c => isTail c.1) = tails
  have hmt : ∀ c, c ∈ tails ↔ c ∈ cs ∧ isTail c.1 = true := fun c => htl ▸ List.mem_filter
  -- every row that is not a wildcard has its own case
  have hkey : ∀ r ∈ rows, r.1 ≠ .wild → r.1 ∈ keys cs := fun r hr hw =>
    inv.ex r hr _ ⟨hw, compat_self hw, isCase_of_mem hr hw⟩
  have hLP := longestPattern_ge cs
  -- the rows chosen with the case `c` / with the default matrix
  have hsel : ∀ c ∈ cs, (∀ r ∈ rows, compat r.1 c.1 = r.1.admits L) →
      c.2 = (rows.filter (fun r => r.1.admits L)).map (·.2) := by
    intro c hm h
    rw [inv.ent c.1 c.2 (entry_of_mem inv.nd hm), sel, List.filter_congr h]
  have hdflt : (∀ r ∈ rows, decide (r.1 = .wild) = r.1.admits L) →
      dflt = (rows.filter (fun r => r.1.admits L)).map (·.2) := fun h =>
    inv.dflt.trans (by rw [wildsOf, List.filter_congr h])
  -- beyond `longest_pattern` there is no exact case and every tail case fits, so the second
  -- branch of the `if` is an instance of the first
  have hlong : ¬ L ≤ longestPattern cs →
      findList L cs = none ∧ tails.filter (fun c => tailLen c.1 ≤ L) = tails := by
    intro hgt
    constructor
    · cases hf : findList L cs with
      | none => rfl
      | some c =>
        obtain ⟨h1, h2⟩ := findList_some hf
        have := hLP c h2
        rw [h1] at this
        exact absurd this hgt
    · apply List.filter_eq_self.mpr
      intro c hc
      obtain ⟨h1, h2⟩ := (hmt c).mp hc
      obtain ⟨m, hm⟩ := (isTail_iff c.1).mp h2
      have := hLP c h1
      simp only [hm, reach, tailLen, decide_eq_true_eq] at this ⊢
      exact Nat.le_of_pred_lt (Nat.lt_of_le_of_lt this (Nat.lt_of_not_le hgt))
  suffices H : (match findList L cs with
      | some c => c.2
      | none =>
        match maxTail (tails.filter (fun c => tailLen c.1 ≤ L)) with
        | some c => c.2
        | none => dflt) = (rows.filter (fun r => r.1.admits L)).map (·.2) by
    split
    · exact H
    · rename_i hgt
      rw [(hlong hgt).1, (hlong hgt).2] at H
      exact H
  cases hf : findList L cs with
  | some c =>
    obtain ⟨h1, h2⟩ := findList_some hf
    exact hsel c h2 fun r _ => h1 ▸ compat_list_admits r.1 L
  | none =>
    have hnl : ∀ r ∈ rows, r.1 ≠ .list L := fun r hr e =>
      findList_none hf (e ▸ hkey r hr (e ▸ nofun))
    -- a tail row that fits has its case among the tail cases that fit
    have htails : ∀ r ∈ rows, ∀ t, r.1 = .tail t → t ≤ L →
        ∃ c ∈ tails.filter (fun c => tailLen c.1 ≤ L), c.1 = .tail t := by
      intro r hr t e hle
      obtain ⟨c, hm, hc⟩ := List.mem_map.mp (hkey r hr (e ▸ nofun))
      rw [e] at hc
      exact ⟨c, List.mem_filter.mpr ⟨(hmt c).mpr ⟨hm, hc ▸ rfl⟩, hc ▸ decide_eq_true hle⟩, hc⟩
    have hspec := maxTail_spec (tails.filter (fun c => tailLen c.1 ≤ L))
    cases hm : maxTail (tails.filter (fun c => tailLen c.1 ≤ L)) with
    | some b =>
      -- `b` is a tail case that fits, and the longest of those
      rw [hm] at hspec
      obtain ⟨hbmem, hbmax⟩ := hspec
      obtain ⟨hbtails, hbfit⟩ := List.mem_filter.mp hbmem
      obtain ⟨hbcs, hbtail⟩ := (hmt b).mp hbtails
      obtain ⟨m, hbm⟩ := (isTail_iff b.1).mp hbtail
      rw [hbm] at hbmax hbfit
      refine hsel b hbcs fun r hr =>
        hbm ▸ compat_tail_admits (of_decide_eq_true hbfit) (hnl r hr) fun t e h => ?_
      obtain ⟨c, hc, hct⟩ := htails r hr t e h
      have := hbmax c hc
      rw [hct] at this
      exact this
    | none =>
      -- no tail case fits, so no tail row does
      rw [hm] at hspec
      refine hdflt fun r hr => wild_admits (hnl r hr) fun t e h => ?_
      obtain ⟨c, hc, _⟩ := htails r hr t e h
      rw [hspec] at hc
      cases hc

end AikenVerif.ListSwitch
