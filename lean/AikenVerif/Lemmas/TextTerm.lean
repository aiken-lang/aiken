import AikenVerif.Lemmas.TextConst
import AikenVerif.Lemmas.TextNames
/-! Helper lemmas for C15: the builtin name table; terms and programs (token level) under any layout of the soft breaks. -/
namespace AikenVerif.Text
open AikenVerif.Gen (Builtin)
open AikenVerif.Gen.TextTables

theorem kwTerm_eq_kwTermP_iff (a b : TermKind) : kwTerm a = kwTermP b ↔ a = b := by
  cases a <;> cases b <;> decide +kernel

theorem kwTerm_eq (k : TermKind) : kwTerm k = kwTermP k := (kwTerm_eq_kwTermP_iff k k).2 rfl

theorem program_kw : chars programDisplay = chars programParse := by decide

theorem all_eq_range : Builtin.all = (List.range 91).map Builtin.ofNat := by decide +kernel

theorem ctorIdx_lt (b : Builtin) : b.ctorIdx < 91 := by cases b <;> decide

-- by the constructor index; deciding `b ∈ Builtin.all` for each of the 91 constructors is slow to check
theorem builtin_mem_all (b : Builtin) : b ∈ Builtin.all :=
  all_eq_range ▸ List.mem_map.2 ⟨b.ctorIdx, List.mem_range.2 (ctorIdx_lt b), Builtin.ofNat_ctorIdx b⟩

theorem display_table : ∀ b ∈ Builtin.all, Builtin.fromStr b.display = some b ∧
    (chars b.display).map Char.toNat = b.display ∧ isIdent (chars b.display) = true := by
  decide +kernel

/-- `builtin_names_roundtrip` as used by the parser model -/
theorem builtinOfWord_display (b : Builtin) : builtinOfWord (chars b.display) = some b := by
  obtain ⟨h1, h2, -⟩ := display_table b (builtin_mem_all b)
  rw [builtinOfWord, h2, h1]

theorem isIdent_display (b : Builtin) : isIdent (chars b.display) = true :=
  (display_table b (builtin_mem_all b)).2.2

theorem afterKeyword_hit (kw : List Char) (r : List Token) :
    afterKeyword kw (.lpar :: .word kw :: r) = some r := by
  simp [afterKeyword]

@[simp] theorem afterKeyword_kwTerm (k : TermKind) (r : List Token) :
    afterKeyword (kwTermP k) (.lpar :: .word (kwTerm k) :: r) = some r := by
  rw [kwTerm_eq, afterKeyword_hit]

theorem afterKeyword_miss (kw w : List Char) (r : List Token) (h : w ≠ kw) :
    afterKeyword kw (.lpar :: .word w :: r) = none := by
  simp [afterKeyword, h]

@[simp] theorem afterKeyword_word (kw w : List Char) (r : List Token) : afterKeyword kw (.word w :: r) = none := rfl
@[simp] theorem afterKeyword_lbrack (kw : List Char) (r : List Token) : afterKeyword kw (.lbrack :: r) = none := rfl
@[simp] theorem afterKeyword_rbrack (kw : List Char) (r : List Token) : afterKeyword kw (.rbrack :: r) = none := rfl
@[simp] theorem afterKeyword_rpar (kw : List Char) (r : List Token) : afterKeyword kw (.rpar :: r) = none := rfl

theorem parseTerm_close (f : Nat) (st : Interner) (close : Token) (r : List Token)
    (hc : close = .rpar ∨ close = .rbrack) : parseTerm f st (close :: r) = none := by
  rcases hc with rfl | rfl <;> cases f <;> rfl

theorem printTermL_noLeadWs (w : Layout) (p : List Nat) (t : Term Name) : NoLeadWs (printTermL w p t) := by
  cases t <;> (simp only [printTermL, List.cons_append, List.nil_append]; exact ⟨_, _, rfl, by simp⟩)

theorem printTermL_flat : (∀ t p, printTermL (fun _ => false) p t = printTerm t) ∧
    (∀ ts p i, printTermsL (fun _ => false) p i ts = printTerms ts) := by
  apply term_ind <;> intros <;> simp [*, printTermL, printTerm, printTermsL, printTerms, soft, printConstL_flat]

theorem printTermsL_flat : (ts : List (Term Name)) → ∀ p i, printTermsL (fun _ => false) p i ts = printTerms ts :=
  printTermL_flat.2

theorem printProgramTokensL_flat (p : Program Name) : printProgramTokensL (fun _ => false) p = printProgramTokens p := by
  simp [printProgramTokensL, printProgramTokens, printTermL_flat.1, soft]

@[simp] theorem orElse_none_left {α} (b : Option α) : orElse none b = b := rfl
@[simp] theorem orElse_none_right {α} (a : Option α) : orElse a none = a := by cases a <;> rfl
@[simp] theorem orElse_some {α} (x : α) (b : Option α) : orElse (some x) b = some x := rfl

section dispatch
variable (f : Nat) (st : Interner) (w : List Char) (r : List Token)
variable (rec : Interner → List Token → TermRes) (recs : Interner → List Token → TermsRes)

@[simp] theorem altVar_lpar : altVar st (.lpar :: r) = none := rfl
@[simp] theorem altApply_lpar : altApply rec recs st (.lpar :: r) = none := rfl

-- each keyword alternative fails on `(w …` for another word `w`; one lemma per alternative because each opens with
-- its own `match afterKeyword …`.  With these `parseTerm_kw` unfolds no alternative.
theorem altConst_miss (h : w ≠ kwTermP .con) : altConst f st (.lpar :: .word w :: r) = none := by
  simp [altConst, afterKeyword_miss _ _ _ h]
theorem altBuiltin_miss (h : w ≠ kwTermP .builtin) : altBuiltin st (.lpar :: .word w :: r) = none := by
  simp [altBuiltin, afterKeyword_miss _ _ _ h]
theorem altLam_miss (h : w ≠ kwTermP .lam) : altLam rec st (.lpar :: .word w :: r) = none := by
  simp [altLam, afterKeyword_miss _ _ _ h]
theorem altUnary_miss (k : TermKind) (mk : Term Name → Term Name) (h : w ≠ kwTermP k) :
    altUnary k mk rec st (.lpar :: .word w :: r) = none := by
  simp [altUnary, afterKeyword_miss _ _ _ h]
theorem altError_miss (h : w ≠ kwTermP .error) : altError st (.lpar :: .word w :: r) = none := by
  simp [altError, afterKeyword_miss _ _ _ h]
theorem altConstr_miss (h : w ≠ kwTermP .constr) : altConstr recs st (.lpar :: .word w :: r) = none := by
  simp [altConstr, afterKeyword_miss _ _ _ h]
theorem altCase_miss (h : w ≠ kwTermP .case) : altCase rec recs st (.lpar :: .word w :: r) = none := by
  simp [altCase, afterKeyword_miss _ _ _ h]

theorem parseTerm_kw (k : TermKind) : parseTerm (f + 1) st (.lpar :: .word (kwTerm k) :: r) =
    (match k with
      | .con => altConst f
      | .builtin => altBuiltin
      | .lam => altLam (parseTerm f)
      | .delay => altUnary .delay .delay (parseTerm f)
      | .force => altUnary .force .force (parseTerm f)
      | .error => altError
      | .constr => altConstr (parseTerms f)
      | .case => altCase (parseTerm f) (parseTerms f)) st (.lpar :: .word (kwTerm k) :: r) := by
  cases k <;> simp [parseTerm, altConst_miss, altBuiltin_miss, altLam_miss, altUnary_miss, altError_miss,
    altConstr_miss, altCase_miss, kwTerm_eq_kwTermP_iff]

theorem parseTerm_word : parseTerm (f + 1) st (.word w :: r) = altVar st (.word w :: r) := by
  simp [parseTerm, altConst, altBuiltin, altLam, altApply, altUnary, altError, altConstr, altCase]

theorem parseTerm_lbrack : parseTerm (f + 1) st (.lbrack :: r) =
    altApply (parseTerm f) (parseTerms f) st (.lbrack :: r) := by
  simp [parseTerm, altConst, altBuiltin, altVar, altLam, altUnary, altError, altConstr, altCase]
end dispatch

theorem parseTerms_close (f : Nat) (st : Interner) (close : Token) (rest : List Token)
    (hc : close = .rpar ∨ close = .rbrack) :
    parseTerms (f + 1) st (close :: rest) = some ([], st, close :: rest) := by
  simp [parseTerms, parseTerm_close f st close rest hc]

/-- fuel that let `parseTerm` succeed is a successor, which is what the stop at the closing token needs -/
theorem parseTerms_last {f : Nat} {st st1 : Interner} {toks r rest : List Token} {t : Term Name} {close : Token}
    (h : parseTerm f st toks = some (t, st1, r)) (hr : skipWs r = close :: rest)
    (hc : close = .rpar ∨ close = .rbrack) : parseTerms (f + 1) st toks = some ([t], st1, close :: rest) := by
  cases f with
  | zero => cases h
  | succ g =>
    rw [parseTerms, h]
    simp only [hr, parseTerms_close g st1 close rest hc]

theorem skipWs_close (close : Token) (rest : List Token) (hc : close = .rpar ∨ close = .rbrack) :
    skipWs (close :: rest) = close :: rest := by
  rcases hc with rfl | rfl <;> rfl

/-- the names come back re-interned (`Interner::term`); a term list is read up to a closing token, at which the
`(term _*)*` loop stops -/
theorem parseTerm_printL (w : Layout) :
    (∀ (t : Term Name) (p : List Nat) (f : Nat) (st : Interner) (rest : List Token),
      termOk t = true → (printTermL w p t).length ≤ f →
      parseTerm f st (printTermL w p t ++ rest) = some ((relabel st t).1, (relabel st t).2, rest)) ∧
    (∀ (ts : List (Term Name)) (p : List Nat) (i : Nat) (f : Nat) (st : Interner) (tl : List Token) (close : Token)
      (rest : List Token), skipWs tl = close :: rest → (close = .rpar ∨ close = .rbrack) → termsOk ts = true →
      (printTermsL w p i ts).length + 1 ≤ f →
      parseTerms f st (skipWs (printTermsL w p i ts ++ tl)) =
        some ((relabelList st ts).1, (relabelList st ts).2, close :: rest)) := by
  apply term_ind
  case var =>
    intro n p f st rest hok hf
    simp [termOk, validName] at hok
    simp only [printTermL, List.length_cons, List.length_nil] at hf
    obtain ⟨g, rfl, hg⟩ := fuel_succ hf
    simp [printTermL, BinderText.text, parseTerm_word, altVar, hok.1, relabel, nameChars]
  case lam =>
    intro n b ih p f st rest hok hf
    simp [termOk, validName] at hok
    simp only [printTermL, List.length_append, List.length_cons, List.length_nil] at hf
    obtain ⟨g, rfl, hg⟩ := fuel_succ hf
    have ih := fun st r => ih (0 :: p) g st r hok.2 (by omega)
    simp [printTermL, parseTerm_kw, altLam, BinderText.text, hok.1.1, skipWs_of_noLeadWs,
      printTermL_noLeadWs, ih, relabel, nameChars]
  case app =>
    intro a b iha ihb p f st rest hok hf
    simp [termOk] at hok
    simp only [printTermL, List.length_append, List.length_cons, List.length_nil] at hf
    obtain ⟨g, rfl, hg⟩ := fuel_succ hf
    obtain ⟨g', rfl, hg'⟩ := fuel_succ hg
    have iha := fun r => iha (0 :: p) (g' + 1) st r hok.1 (by omega)
    -- the argument is read one level further down, by `parseTerms`, as a list of one term that stops at `]`
    have hb := parseTerms_last (ihb (1 :: p) g' (relabel st a).2 (.ws :: .rbrack :: rest) hok.2 (by omega)) rfl
      (Or.inr rfl)
    simp [printTermL, parseTerm_lbrack, altApply, skipWs_of_noLeadWs, printTermL_noLeadWs, iha, hb, applyAll, relabel]
  case delay | force =>
    intro t ih p f st rest hok hf
    simp [termOk] at hok
    simp only [printTermL, List.length_append, List.length_cons, List.length_nil] at hf
    obtain ⟨g, rfl, hg⟩ := fuel_succ hf
    have ih := fun r => ih (0 :: p) g st r hok (by omega)
    simp [printTermL, parseTerm_kw, altUnary, skipWs_of_noLeadWs, printTermL_noLeadWs, ih, relabel]
  case error =>
    intro p f st rest _ hf
    simp only [printTermL, List.length_cons, List.length_nil] at hf
    obtain ⟨g, rfl, hg⟩ := fuel_succ hf
    simp [printTermL, parseTerm_kw, altError, relabel]
  case builtin =>
    intro b p f st rest _ hf
    simp only [printTermL, List.length_append, List.length_cons, List.length_nil] at hf
    obtain ⟨g, rfl, hg⟩ := fuel_succ hf
    simp [printTermL, parseTerm_kw, altBuiltin, isIdent_display, builtinOfWord_display, relabel]
  case const =>
    intro c p f st rest hok hf
    simp [termOk] at hok
    simp only [printTermL, List.length_append, List.length_cons, List.length_nil] at hf
    obtain ⟨g, rfl, hg⟩ := fuel_succ hf
    have hc := fun r => parseConst_printL w (0 :: p) c g r hok (by omega)
    simp [printTermL, parseTerm_kw, altConst, skipWs_of_noLeadWs, printConstL_noLeadWs w (0 :: p) c hok, hc,
      relabel]
  case constr =>
    intro tag fs ih p f st rest hok hf
    simp [termOk] at hok
    simp only [printTermL, List.length_append, List.length_cons, List.length_nil] at hf
    obtain ⟨g, rfl, hg⟩ := fuel_succ hf
    have ih := ih p 0 g st (soft (w p) ++ .rpar :: rest) .rpar rest (skipWs_soft _ _) (Or.inl rfl) hok.2 (by omega)
    have e1 : (natChars tag).takeWhile isDigit = natChars tag := takeWhile_all _ _ (natChars_all_digit tag)
    have e2 : (natChars tag).dropWhile isDigit = [] := dropWhile_all _ _ (natChars_all_digit tag)
    simp [printTermL, parseTerm_kw, altConstr, e1, e2, parseDecimal_natChars tag hok.1, ih, relabel]
  case case =>
    intro s bs ihs ihbs p f st rest hok hf
    simp [termOk] at hok
    simp only [printTermL, List.length_append, List.length_cons, List.length_nil] at hf
    obtain ⟨g, rfl, hg⟩ := fuel_succ hf
    have ihs := fun r => ihs (0 :: p) g st r hok.1 (by omega)
    have ihbs := ihbs p 1 g (relabel st s).2 (soft (w p) ++ .rpar :: rest) .rpar rest
      (skipWs_soft _ _) (Or.inl rfl) hok.2 (by omega)
    simp [printTermL, parseTerm_kw, altCase, skipWs_of_noLeadWs, printTermL_noLeadWs, ihs, ihbs, relabel]
  case nil =>
    intro p i f st tl close rest htl hc _ hf
    obtain ⟨g, rfl, hg⟩ := fuel_succ hf
    simp [printTermsL, htl, parseTerms_close g st close rest hc, relabelList]
  case cons =>
    intro t ts iht ihts p i f st tl close rest htl hc hok hf
    simp [termsOk] at hok
    simp only [printTermsL, List.length_append, List.length_cons] at hf
    obtain ⟨g, rfl, hg⟩ := fuel_succ hf
    have iht := fun r => iht (i :: p) g st r hok.1 (by omega)
    have ihts := ihts p (i + 1) g (relabel st t).2 tl close rest htl hc hok.2 (by omega)
    simp [printTermsL, parseTerms, skipWs_of_noLeadWs, printTermL_noLeadWs, iht, ihts, relabelList]

theorem parseTerms_printL (w : Layout) : (ts : List (Term Name)) → ∀ (p : List Nat) (i : Nat) (f : Nat) (st : Interner)
      (b : Bool) (rest : List Token), termsOk ts = true → (printTermsL w p i ts).length + 2 ≤ f →
      parseTerms f st (skipWs (printTermsL w p i ts ++ (soft b ++ .rpar :: rest))) =
        some ((relabelList st ts).1, (relabelList st ts).2, .rpar :: rest) :=
  fun ts p i f st b rest hok hf =>
    (parseTerm_printL w).2 ts p i f st _ .rpar rest (skipWs_soft b rest) (Or.inl rfl) hok (by omega)

theorem parseTerms_print : (ts : List (Term Name)) → ∀ (f : Nat) (st : Interner) (close : Token) (rest : List Token),
      (close = .rpar ∨ close = .rbrack) → termsOk ts = true → (printTerms ts).length + 1 ≤ f →
      parseTerms f st (skipWs (printTerms ts ++ close :: rest)) =
        some ((relabelList st ts).1, (relabelList st ts).2, close :: rest) := by
  intro ts f st close rest hc hok hf
  rw [← printTermsL_flat ts [] 0] at hf ⊢
  exact (parseTerm_printL _).2 ts [] 0 f st _ close rest (skipWs_close close rest hc) hc hok hf

theorem programOk_term {p : Program Name} (h : programOk p = true) : termOk p.term = true := by
  simp only [programOk, Bool.and_eq_true] at h
  exact h.2

theorem parseProgram_printL (w : Layout) (p : Program Name) (hok : programOk p = true) :
    parseProgram (printProgramTokensL w p) = some ⟨p.version, (relabel [] p.term).1⟩ := by
  simp [programOk] at hok
  obtain ⟨⟨⟨h1, h2⟩, h3⟩, h4⟩ := hok
  have hv := parseVersion_versionChars p.version h1 h2 h3
  have ht := fun r => (parseTerm_printL w).1 p.term [0] ((printProgramTokensL w p).length + 1) [] r h4
    (by simp [printProgramTokensL]; omega)
  simp only [printProgramTokensL, List.cons_append, List.nil_append, List.append_assoc] at ht ⊢
  simp at ht
  simp [parseProgram, parseProgramFuel, afterKeyword, program_kw, hv, skipWs_of_noLeadWs, printTermL_noLeadWs, ht]

theorem parseProgram_print (p : Program Name) (hok : programOk p = true) :
    parseProgram (printProgramTokens p) = some ⟨p.version, (relabel [] p.term).1⟩ := by
  rw [← printProgramTokensL_flat]
  exact parseProgram_printL _ p hok

mutual
  theorem constPrintable_of_ok : (c : Const) → ∀ t, constOk t c = true → constPrintable c = true
    | .list t' xs => by
      intro t h
      obtain rfl : t = .list t' := constOk_ty h
      simp [constOk] at h
      simpa [constPrintable] using constsPrintable_of_ok xs _ h
    | .pair a b x y => by
      intro t h
      obtain rfl : t = .pair a b := constOk_ty h
      simp [constOk] at h
      simp [constPrintable, constPrintable_of_ok x _ h.1, constPrintable_of_ok y _ h.2]
    | .ml _ => by
      intro t h
      obtain rfl : t = .ml := constOk_ty h
      simp [constOk] at h
    | .integer _ | .bytestring _ | .string _ | .unit | .bool _ | .data _ | .g1 _ | .g2 _ => by intros; rfl
  theorem constsPrintable_of_ok : (cs : List Const) → ∀ t, constsOk t cs = true → constsPrintable cs = true
    | [] => by intros; rfl
    | c :: cs => by
      intro t h
      simp [constsOk] at h
      simp [constsPrintable, constPrintable_of_ok c t h.1, constsPrintable_of_ok cs t h.2]
end

theorem termPrintable_of_ok : (∀ t : Term Name, termOk t = true → termPrintable t = true) ∧
    (∀ ts : List (Term Name), termsOk ts = true → termsPrintable ts = true) := by
  apply term_ind
  case const => intro c h; exact constPrintable_of_ok c _ h
  all_goals intros; simp_all [termOk, termsOk, termPrintable, termsPrintable]

theorem termsPrintable_of_ok : (ts : List (Term Name)) → termsOk ts = true → termsPrintable ts = true :=
  termPrintable_of_ok.2

/-- the printer only looks at texts, and re-interning keeps texts -/
theorem printTerm_relabel : (∀ t st, printTerm (relabel st t).1 = printTerm t) ∧
    (∀ ts st, printTerms (relabelList st ts).1 = printTerms ts) := by
  apply term_ind <;> intros <;> simp [*, relabel, relabelList, printTerm, printTerms, BinderText.text, mkName_nameChars]

theorem printTerms_relabel : (ts : List (Term Name)) → ∀ st, printTerms (relabelList st ts).1 = printTerms ts :=
  printTerm_relabel.2

theorem termPrintable_relabel : (∀ t st, termPrintable (relabel st t).1 = termPrintable t) ∧
    (∀ ts st, termsPrintable (relabelList st ts).1 = termsPrintable ts) := by
  apply term_ind <;> intros <;> simp [*, relabel, relabelList, termPrintable, termsPrintable]

theorem termsPrintable_relabel : (ts : List (Term Name)) → ∀ st, termsPrintable (relabelList st ts).1 = termsPrintable ts :=
  termPrintable_relabel.2

end AikenVerif.Text
