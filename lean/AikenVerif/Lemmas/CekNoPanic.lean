import AikenVerif.Lemmas.CostNoPanic
import AikenVerif.Lemmas.CekRefine
/-! The machine never panics on a well-typed state (`State.wt`), and its next state is well-typed again. -/
namespace AikenVerif
open Gen

def StepSafe : StepResult → Prop
  | .next _ s' => s'.wt = true
  | .panic => False
  | _ => True

theorem evalBuiltinApp_safe (cfg : Config) (a : Acct) (b : Builtin) (args : List Value)
    (hl : args.length = b.arity) (hw : Value.wtList args = true) :
    match evalBuiltinApp cfg a b args with
    | .ok (_, v) => v.wt = true
    | .panic => False
    | _ => True := by
  have h := evalBuiltinApp_cases cfg a b args
  revert h
  cases evalBuiltinApp cfg a b args with
  | ok p =>
    rintro ⟨c, _, _, _, hcall⟩
    exact callBuiltin_wt cfg.sem b args p.2 hl hw hcall
  | panic =>
    -- the machine costs the call first: when costing has passed, so have the guards `callBuiltin` relies on
    rintro (hcost | ⟨c, hcost, hcall⟩)
    · exact builtinCost_np cfg.costs cfg.sem b args hl hcost
    · exact callBuiltin_np cfg.sem b args hl hw ((builtinCost_cases cfg.costs cfg.sem b args).2 c hcost) hcall
  | _ => intro _; trivial

theorem wt_of_getElem? {vs : List Value} {i : Nat} {v : Value} (h : Value.wtList vs = true)
    (hv : vs[i]? = some v) : v.wt = true :=
  (Value.wtList_iff vs).1 h v (List.mem_of_getElem? hv)

theorem caseOnConst_fields_wt (c : Const) (tag : Nat) (fields : List Value) (m : Option Nat)
    (hc : c.wt = true) (h : caseOnConst c = some (tag, fields, m)) : Value.wtList fields = true := by
  cases c with
  | list t xs =>
    cases xs with
    | nil => simp [caseOnConst] at h; obtain ⟨_, rfl, _⟩ := h; rfl
    | cons x rest =>
      simp [caseOnConst] at h; obtain ⟨_, rfl, _⟩ := h
      simp only [Const.wt, Const.wtList, Bool.and_eq_true] at hc
      simp [Value.wtList, Value.wt, Const.wt, hc.1.2, hc.2]
  | pair _ _ x y =>
    simp [caseOnConst] at h; obtain ⟨_, rfl, _⟩ := h
    simp only [Const.wt, Bool.and_eq_true] at hc
    simp [Value.wtList, Value.wt, hc.1.2, hc.2]
  | unit => simp [caseOnConst] at h; obtain ⟨_, rfl, _⟩ := h; rfl
  | bool b => cases b <;> simp [caseOnConst] at h <;> obtain ⟨_, rfl, _⟩ := h <;> rfl
  | integer i =>
    simp only [caseOnConst] at h
    split at h
    · cases h
    · simp at h; obtain ⟨_, rfl, _⟩ := h; rfl
  | _ => cases h

theorem builtinApp_safe (cfg : Config) (a : Acct) (ctx : Ctx) (b : Builtin) (forces : Nat) (args : List Value)
    (hctx : ctx.all Frame.wt = true) (hw : Value.wtList args = true) :
    StepSafe (.ofOutcome (builtinApp cfg a ctx b forces args)) := by
  unfold builtinApp
  by_cases hl : args.length = b.arity
  · simp only [hl, if_true]
    have := evalBuiltinApp_safe cfg a b args hl hw
    revert this
    cases evalBuiltinApp cfg a b args with
    | ok p =>
      obtain ⟨a', v⟩ := p
      intro hv
      simp only [Outcome.bind_ok', Outcome.pure_eq, StepResult.ofOutcome, StepSafe, State.wt, hctx, hv, Bool.and_self]
    | panic => exact id
    | _ => intro _; trivial
  · simp only [hl, if_false, StepResult.ofOutcome, StepSafe, State.wt, hctx, Value.wt, hw, Bool.and_self]

theorem applyEvaluate_safe (cfg : Config) (a : Acct) (ctx : Ctx) (fn arg : Value)
    (hctx : ctx.all Frame.wt = true) (hfn : fn.wt = true) (harg : arg.wt = true) :
    StepSafe (.ofOutcome (applyEvaluate cfg a ctx fn arg)) := by
  cases fn with
  | lam n body env =>
    simp only [Value.wt, Bool.and_eq_true] at hfn
    simp [applyEvaluate, StepResult.ofOutcome, StepSafe, State.wt, hctx, Value.wtList_append, hfn.1, hfn.2,
      Value.wtList, harg]
  | builtin b forces args =>
    simp only [Value.wt] at hfn
    simp only [applyEvaluate]
    split
    · exact builtinApp_safe cfg a ctx b forces (args ++ [arg]) hctx
        (by simp [Value.wtList_append, hfn, Value.wtList, harg])
    · trivial
  | _ => trivial

theorem forceEvaluate_safe (cfg : Config) (a : Acct) (ctx : Ctx) (v : Value)
    (hctx : ctx.all Frame.wt = true) (hv : v.wt = true) :
    StepSafe (.ofOutcome (forceEvaluate cfg a ctx v)) := by
  cases v with
  | delay body env =>
    simp only [Value.wt, Bool.and_eq_true] at hv
    simp [forceEvaluate, StepResult.ofOutcome, StepSafe, State.wt, hctx, hv.1, hv.2]
  | builtin b forces args =>
    simp only [Value.wt] at hv
    simp only [forceEvaluate]
    split
    · exact builtinApp_safe cfg a ctx b (forces + 1) args hctx hv
    · trivial
  | _ => trivial

theorem compute_wt (sem : Sem) (den : Builtin → List Value → Res Value) (ctx : Ctx) (env : List Value)
    (t : NTerm) (s' : State) (hwt : (State.compute ctx env t).wt = true)
    (h : Spec.step sem den (.compute ctx env t) = .next s') : s'.wt = true := by
  simp only [State.wt, Bool.and_eq_true] at hwt
  obtain ⟨⟨hctx, henv⟩, ht⟩ := hwt
  cases t with
  | var n =>
    simp only [Spec.step] at h
    split at h
    · rename_i v hv
      cases h
      simp [State.wt, hctx, (Value.wtList_iff env).1 henv v (Spec.lookup_mem hv)]
    · cases h
  | constr tag fields =>
    simp only [Term.wt] at ht
    cases fields with
    | nil => cases h; simp [State.wt, hctx, Value.wt, Value.wtList]
    | cons m ms =>
      simp only [Term.wtList, Bool.and_eq_true] at ht
      cases h
      simp [State.wt, hctx, Frame.wt, henv, ht.1, ht.2, Value.wtList]
  | error => cases h
  | app f x =>
    simp only [Term.wt, Bool.and_eq_true] at ht
    cases h
    simp [State.wt, hctx, Frame.wt, henv, ht.1, ht.2]
  | case scrut branches =>
    simp only [Term.wt, Bool.and_eq_true] at ht
    cases h
    simp [State.wt, hctx, Frame.wt, henv, ht.1, ht.2]
  | _ =>
    simp only [Term.wt] at ht
    cases h
    simp [State.wt, hctx, Frame.wt, Value.wt, Value.wtList, henv, ht]

theorem step_safe (cfg : Config) (a : Acct) (s : State) (hwt : s.wt = true) (ha : AcctWF a) :
    StepSafe (step cfg a s) := by
  cases s with
  | compute ctx env t =>
    obtain ⟨o, hspec, himpl⟩ := compute_lockstep cfg.sem (denotation cfg.sem) ctx env t
    rw [step, himpl]
    apply charge_then cfg a _ ha _ StepSafe trivial trivial
    intro a' _
    cases o with
    | none => trivial
    | some s' => exact compute_wt _ _ ctx env t s' hwt hspec
  | ret ctx v =>
    simp only [State.wt, Bool.and_eq_true] at hwt
    obtain ⟨hctx, hv⟩ := hwt
    cases ctx with
    | nil =>
      rw [step_ret_nil]
      have hfl := flush_benign cfg a ha
      revert hfl
      cases flush cfg a with
      | panic => exact id
      | _ => intro _; trivial
    | cons fr ctx =>
      simp only [List.all_cons, Bool.and_eq_true] at hctx
      obtain ⟨hfr, hctx⟩ := hctx
      rw [step]
      cases fr with
      | force => exact forceEvaluate_safe cfg a ctx v hctx hv
      | awaitFunTerm argEnv arg =>
        simp only [Frame.wt, Bool.and_eq_true] at hfr
        simp [returnStep, StepResult.ofOutcome, StepSafe, State.wt, hctx, Frame.wt, hv, hfr.1, hfr.2]
      | awaitArg fn =>
        simp only [Frame.wt] at hfr
        exact applyEvaluate_safe cfg a ctx fn v hctx hfr hv
      | awaitFunValue arg =>
        simp only [Frame.wt] at hfr
        exact applyEvaluate_safe cfg a ctx v arg hctx hv hfr
      | constr env tag todo done =>
        simp only [Frame.wt, Bool.and_eq_true] at hfr
        obtain ⟨⟨henv, htodo⟩, hdone⟩ := hfr
        cases todo with
        | nil =>
          simp [returnStep, StepResult.ofOutcome, StepSafe, State.wt, hctx, Value.wt, Value.wtList_append, hdone,
            Value.wtList, hv]
        | cons m ms =>
          simp only [Term.wtList, Bool.and_eq_true] at htodo
          simp [returnStep, StepResult.ofOutcome, StepSafe, State.wt, hctx, Frame.wt, henv, htodo.1, htodo.2,
            Value.wtList_append, hdone, Value.wtList, hv]
      | cases env branches =>
        simp only [Frame.wt, Bool.and_eq_true] at hfr
        obtain ⟨o, _, himpl, hsel⟩ := cases_lockstep cfg (denotation cfg.sem) a ctx env branches v
        rw [himpl]
        cases o with
        | none => trivial
        | some p =>
          have hf : Value.wtList p.2 = true := by
            rcases (hsel p rfl).2 with ⟨tag, rfl⟩ | ⟨c, tag, m, rfl, hco⟩
            · exact hv
            · exact caseOnConst_fields_wt c tag p.2 m hv hco
          show (State.compute (Spec.pushArgs p.2 ctx) env p.1).wt = true
          simp only [State.wt, pushArgs_all Frame.wt p.2 ctx ((Value.wtList_iff p.2).1 hf) hctx, hfr.1,
            (Term.wtList_iff branches).1 hfr.2 p.1 (hsel p rfl).1, Bool.and_self]

end AikenVerif
