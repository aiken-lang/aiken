import AikenVerif.Lemmas.Schema
/-! The central induction of C12: on a faithful table, the (repaired) validator and the
compiled `expect` are the same function.  Both go by the same one-level `Layout` of the type:
the generator publishes `Layout.schema`, `expect` does `Layout.expect`. -/
namespace AikenVerif.Blueprint

/-- how a closed type looks as data, one level deep -/
inductive Layout where
  | opaque | int | bytes
  | list (t : ATy)
  | map (a b : ATy)
  | tuple (fs : List ATy)
  | anyOf (cs : List (Nat × List ATy))

def layout (decls : Decls) : ATy → Option Layout
  | .data => some .opaque
  | .int => some .int
  | .bytes => some .bytes
  | .bool => some (.anyOf [(0, []), (1, [])])
  | .void => some (.anyOf [(0, [])])
  | .ordering => some (.anyOf [(0, []), (1, []), (2, [])])
  | .never => some (.anyOf [(1, [])])
  | .option t => some (.anyOf [(0, [t]), (1, [])])
  | .list (.pair a b) => some (.map a b)
  | .list t => some (.list t)
  | .pair a b => some (.tuple [a, b])
  | .tuple ts => some (.tuple ts.toList)
  | .adt n args =>
    match adtShape decls n args with
    | .undeclared => none
    | .record fs => some (.tuple fs)
    | .variants cs => some (.anyOf cs)
  | .var _ => none

def Layout.schema : Layout → DSchema
  | .opaque => .opaque
  | .int => .integer
  | .bytes => .bytes
  | .list t => .list (.ref t)
  | .map a b => .map (.ref a) (.ref b)
  | .tuple fs => .tuple (refs fs)
  | .anyOf cs => .anyOf (cs.map fun c => (c.1, refs c.2))

def Layout.expect (f : ATy → Data → Outcome) : Layout → Data → Outcome
  | .opaque, _ => .ok
  | .int, .int _ => .ok
  | .int, _ => .mismatch
  | .bytes, .bytes _ => .ok
  | .bytes, _ => .mismatch
  | .list t, .list xs => allOk (fun x => f t x) xs
  | .list _, _ => .mismatch
  | .map a b, .map es => allOk (fun e => (f a e.1).andThen (f b e.2)) es
  | .map _ _, _ => .mismatch
  | .tuple fs, .list xs => if xs.length ≠ fs.length then .mismatch else zipOk f fs xs
  | .tuple _, _ => .mismatch
  | .anyOf cs, .constr tag fields => ctorLoop .mismatch f tag fields cs
  | .anyOf _, _ => .mismatch

theorem pubSchema_eq_layout (decls : Decls) (t : ATy) :
    pubSchema decls t = (layout decls t).map Layout.schema := by
  cases t with
  | list t => cases t <;> rfl
  | adt n args => simp only [pubSchema, schemaOf, layout]; cases adtShape decls n args <;> rfl
  | _ => rfl

theorem inh_succ (decls : Decls) (fuel : Nat) (t : ATy) (d : Data) :
    inh decls (fuel + 1) t d =
      match layout decls t with
      | none => .mismatch
      | some L => L.expect (fun t x => inh decls fuel t x) d := by
  cases t with
  | list t => cases t <;> cases d <;> rfl
  | adt n args => simp only [inh, layout]; cases adtShape decls n args <;> cases d <;> rfl
  | _ => cases d <;> rfl

def Layout.refs : Layout → List ATy
  | .list t => [t]
  | .map a b => [a, b]
  | .tuple fs => fs
  | .anyOf cs => cs.flatMap (·.2)
  | _ => []

/-- One step of the validator on the schema of a layout.  The literal `true` is `fixed`: the repaired
behaviour, where a constructor with the wrong number of fields is a mismatch, not a panic. -/
theorem vData_layout {tbl : Table} {fuel : Nat} {g : ATy → Data → Outcome} (L : Layout)
    (hres : ∀ k ∈ L.refs, ∃ ds, Resolves tbl k ds)
    (ih : ∀ t s x, Resolves tbl t s → vData true tbl fuel s x = g t x) (d : Data) :
    vData true tbl (fuel + 1) L.schema d = L.expect g d := by
  cases L with
  | «opaque» => rfl
  | int => cases d <;> rfl
  | bytes => cases d <;> rfl
  | list t =>
    obtain ⟨s, hs⟩ := hres t (List.mem_singleton.mpr rfl)
    cases d with
    | list xs =>
      simp only [Layout.schema, Layout.expect, vData, resolveD_ref hs]
      exact allOk_congr xs fun x => ih t s x hs
    | _ => rfl
  | map a b =>
    obtain ⟨sa, hsa⟩ := hres a (by simp [Layout.refs])
    obtain ⟨sb, hsb⟩ := hres b (by simp [Layout.refs])
    cases d with
    | map es =>
      simp only [Layout.schema, Layout.expect, vData, resolveD_ref hsa, resolveD_ref hsb]
      exact allOk_congr es fun e => by rw [ih a sa _ hsa, ih b sb _ hsb]
    | _ => rfl
  | tuple fs =>
    obtain ⟨ss, hss, hrel⟩ := resolveAll_refs fs hres
    cases d with
    | list xs =>
      simp only [Layout.schema, Layout.expect, vData, hss]
      rw [← hrel.length_eq, zipOk_rel hrel ih]
    | _ => rfl
  | anyOf cs =>
    obtain ⟨rs, hrs, hrel⟩ := resolveCtors_refs cs fun c hc k hk =>
      hres k (List.mem_flatMap.mpr ⟨c, hc, hk⟩)
    cases d with
    | constr tag fields =>
      simp only [Layout.schema, Layout.expect, vData, hrs, lenOutcome_true]
      exact ctorLoop_rel .mismatch tag fields hrel ih
    | _ => simp only [Layout.schema, Layout.expect, vData, hrs]

theorem Layout.refs_schema (L : Layout) : (Schema.data L.schema).refs = L.refs := by
  cases L with
  | tuple fs => exact flatMap_declRefs_refs fs
  | anyOf cs =>
    simp only [Layout.schema, Schema.refs, Layout.refs, List.flatMap_map, flatMap_declRefs_refs]
  | _ => rfl

theorem pub_of_get {decls : Decls} {tbl : Table} (hF : Faithful decls tbl) {t : ATy} {ds : DSchema}
    (h : tbl.get t = some (.data ds)) :
    pubSchema decls t = some ds ∧ ∀ k ∈ (Schema.data ds).refs, ∃ ds', Resolves tbl k ds' := by
  obtain ⟨ds', hp, hs, hrefs⟩ := hF t _ h
  cases hs
  refine ⟨hp, fun k hk => ?_⟩
  obtain ⟨s', hs'⟩ := hrefs k hk
  exact hF.resolves hs'

/-- The central theorem: over a faithful table, validating against the published schema of `t` is
deciding membership in `t` (`inh`), at every fuel. -/
theorem vData_eq_inh {decls : Decls} {tbl : Table} (hF : Faithful decls tbl) :
    ∀ (fuel : Nat) (t : ATy) (ds : DSchema) (d : Data), tbl.get t = some (.data ds) →
      vData true tbl fuel ds d = inh decls fuel t d := by
  intro fuel
  induction fuel with
  | zero => intro t ds d _; rfl
  | succ fuel ih =>
    intro t ds d hget
    obtain ⟨hpub, hrefs⟩ := pub_of_get hF hget
    rw [pubSchema_eq_layout] at hpub
    rw [inh_succ]
    cases hL : layout decls t with
    | none => rw [hL] at hpub; cases hpub
    | some L =>
      rw [hL] at hpub
      cases hpub
      exact vData_layout L (L.refs_schema ▸ hrefs) (fun t s x h => ih t s x h) d
end AikenVerif.Blueprint
