import AikenVerif.Model.DeBruijn
import AikenVerif.Lemmas.TermInd
/-!
Helper lemmas for C11: the `Converter` state reached under a list `env` of
enclosing binders is `st env c`; each primitive (`get_index`, `get_unique`,
`declare_*`, `remove_unique`, `start_scope`, `end_scope`) is computed on that
state; the conversions then coincide with the environment-passing spec.

The conversions and their specs are monadic folds over `Term`.  The inductions (`term_ind`: terms
and term lists together) apply the `Except` lemmas below to them directly: unification unfolds the
fold one step.
-/
namespace AikenVerif.Db

theorem map_ok {α γ : Type} (f : α → γ) (a : α) : (Except.ok a : Except Err α).map f = .ok (f a) := rfl
theorem map_err {α γ : Type} (f : α → γ) (e : Err) : (Except.error e : Except Err α).map f = .error e := rfl

section Except
variable {ε α α' β β' : Type}

theorem ok_bind {x : Except ε α} {a : α} (hx : x = .ok a) (k : α → Except ε β) : x >>= k = k a := by
  subst hx; rfl

theorem bind_eq_ok {x : Except ε α} {k : α → Except ε β} {a : α} {b : β} (hx : x = .ok a) (hk : k a = .ok b) :
    x >>= k = .ok b :=
  (ok_bind hx k).trans hk

/-- partial correctness -/
def Ensures (x : Except ε α) (post : α → Prop) : Prop := ∀ a, x = .ok a → post a

theorem Ensures.pure {post : α → Prop} {a : α} (h : post a) : Ensures (Pure.pure a : Except ε α) post := by
  intro b hb
  cases hb
  exact h

theorem Ensures.bind {x : Except ε α} {k : α → Except ε β} {p : α → Prop} {q : β → Prop}
    (hx : Ensures x p) (hk : ∀ a, x = .ok a → p a → Ensures (k a) q) : Ensures (x >>= k) q := by
  intro b hb
  cases x with
  | error e => cases hb
  | ok a => exact hk a rfl (hx a rfl) b hb

theorem bind_congr_map {x' : Except ε α'} {x : Except ε α} {p : α → α'} {k' : α' → Except ε β'}
    {k : α → Except ε β} {q : β → β'} (hx : x' = x.map p) (hk : ∀ a, k' (p a) = (k a).map q) :
    x' >>= k' = (x >>= k).map q := by
  subst hx
  cases x with
  | error e => rfl
  | ok a => exact hk a

theorem bind_congr₂ {x x' : Except ε α} {k k' : α → Except ε β} (hx : x = x')
    (hk : ∀ a, k a = k' a) : x >>= k = x' >>= k' :=
  hx ▸ bind_congr hk
end Except

theorem congrArg₂ {α β γ : Type} (f : α → β → γ) {a a' : α} {b b' : β} (ha : a = a') (hb : b = b') :
    f a b = f a' b' := by
  rw [ha, hb]

/-- the map left in a level by one `insert` -/
def single (u : Int) (l : Nat) : BiMap := ⟨[(u, l)], [(l, u)]⟩

/-- levels below the current one, innermost first: binder `k` (counted from the
outside) sits alone in level `k` -/
def envMaps : List Int → List BiMap
  | [] => []
  | u :: e => single u e.length :: envMaps e

/-- the converter under the binders `env` (innermost first) with `c` uniques handed out -/
def st (env : List Int) (c : Int) : Conv := ⟨env.length, BiMap.new :: envMaps env, c⟩

theorem conv_new : Conv.new = st [] 0 := rfl

@[simp] theorem envMaps_length (env : List Int) : (envMaps env).length = env.length := by
  induction env with
  | nil => rfl
  | cons u e ih => simp [envMaps, ih]

theorem new_insert (u : Int) (l : Nat) : BiMap.new.insert u l = single u l := rfl

theorem single_remove (u : Int) (l : Nat) : (single u l).remove u l = BiMap.new := by
  simp [single, BiMap.remove, hmRemove, BiMap.new]

theorem resolve_bounds : ∀ (env : List Int) (u : Int) (i : Nat), resolve env u = some i → 1 ≤ i ∧ i ≤ env.length
  | [], _, _, h => by cases h
  | v :: env, u, i, h => by
    rw [resolve] at h
    split at h
    · cases h; simp
    · obtain ⟨j, hr, rfl⟩ := Option.map_eq_some_iff.mp h
      have := resolve_bounds env u j hr
      simp only [List.length_cons]; omega

theorem resolve_none_iff : ∀ (env : List Int) (u : Int), resolve env u = none ↔ u ∉ env
  | [], _ => by simp [resolve]
  | v :: env, u => by
    by_cases h : v = u
    · simp [resolve, h]
    · simp [resolve, h, resolve_none_iff env u, Ne.symm h]

theorem resolve_of_getElem : ∀ (env : List Int) (i : Nat) (u : Int),
    env.Nodup → env[i]? = some u → resolve env u = some (i + 1)
  | [], _, _, _, h => by cases h
  | v :: env, 0, u, _, h => by cases h; simp [resolve]
  | v :: env, i + 1, u, hn, h => by
    have hn' := List.nodup_cons.mp hn
    have hne : ¬ v = u := fun e => hn'.1 (e ▸ List.mem_of_getElem? h)
    simp [resolve, hne, resolve_of_getElem env i u hn'.2 h]

theorem scanLeft_envMaps : ∀ (env : List Int) (u : Int),
    scanLeft u (envMaps env) = (resolve env u).map (fun i => env.length - i)
  | [], _ => rfl
  | v :: env, u => by
    by_cases h : v = u
    · simp [envMaps, scanLeft, BiMap.get, single, hmGet, resolve, h]
    · simp only [envMaps, scanLeft, BiMap.get, single, hmGet, resolve, h, if_false]
      rw [scanLeft_envMaps env u]
      cases resolve env u <;> simp

theorem getIndex_st (env : List Int) (c : Int) (n : Name) :
    getIndex (st env c) n =
      match resolve env n.unique with
      | some i => .ok i
      | none => .error (.freeUnique n) := by
  simp only [getIndex, st, scanLeft, BiMap.get, BiMap.new, hmGet, scanLeft_envMaps]
  cases h : resolve env n.unique with
  | none => rfl
  | some i =>
    -- the level found is `env.length - i`; subtracting it from `current_level` gives `i` back
    rw [Option.map_some]
    exact (if_pos (Nat.sub_le _ _)).trans
      (congrArg Except.ok (Nat.sub_sub_self (resolve_bounds env n.unique i h).2))

/-- the state between `declare_unique`/`declare_binder` and `start_scope` -/
def stDeclared (env : List Int) (u : Int) (c : Int) : Conv := ⟨env.length, single u env.length :: envMaps env, c⟩

/-- `levels[current_level]` of `st env c` is its first level -/
theorem vecUpdate_st (f : BiMap → BiMap) (b : BiMap) (env : List Int) :
    vecUpdate f (b :: envMaps env) env.length = some (f b :: envMaps env) := by
  simp [vecUpdate]

theorem declareUnique_st (env : List Int) (c u : Int) :
    declareUnique (st env c) u = .ok (stDeclared env u c) := by
  simp only [declareUnique, st, vecUpdate_st]; rfl  -- `new_insert`, by unfolding

theorem getIndex_declared (env : List Int) (c : Int) (n : Name) :
    getIndex (stDeclared env n.unique c) n = .ok 0 := by
  simp [getIndex, stDeclared, scanLeft, BiMap.get, single, hmGet]

theorem startScope_declared (env : List Int) (u c : Int) :
    startScope (stDeclared env u c) = st (u :: env) c := rfl

theorem endScope_st (env : List Int) (u c : Int) :
    endScope (st (u :: env) c) = .ok (stDeclared env u c) := by
  simp [endScope, st, stDeclared, envMaps]

theorem removeUnique_declared (env : List Int) (u c : Int) :
    removeUnique (stDeclared env u c) u = .ok (st env c) := by
  simp only [removeUnique, stDeclared, vecUpdate_st, single_remove]; rfl

theorem declareBinder_st (env : List Int) (c : Int) :
    declareBinder (st env c) = .ok (stDeclared env c (c + 1), c) := by
  simp only [declareBinder, st, vecUpdate_st]; rfl

theorem scanRight_single {L i : Nat} (hi : i ≤ L) (v : Int) (l : Nat) (bs : List BiMap) :
    scanRight L i (single v l :: bs) = if l = L - i then .ok v else scanRight L i bs := by
  simp only [scanRight, hi, if_true, BiMap.getRight, single, hmGet]
  by_cases h : l = L - i <;> simp only [h, if_true, if_false]

/-- the binder `e[k]` sits at level `e.length - 1 - k` -/
theorem scanRight_found {L i : Nat} (hi : i ≤ L) {u : Int} : ∀ (e : List Int) (k : Nat),
    e[k]? = some u → L - i + k + 1 = e.length → scanRight L i (envMaps e) = .ok u
  | [], _ => fun h _ => by cases h
  | v :: e, 0 => fun h hl => by
    cases h
    rw [envMaps, scanRight_single hi, if_pos (Nat.succ.inj hl).symm]
  | v :: e, k + 1 => fun h hl => by
    have hl' : L - i + k + 1 = e.length := Nat.succ.inj hl
    rw [envMaps, scanRight_single hi, if_neg (by omega)]
    exact scanRight_found hi e k h hl'

theorem scanRight_none {L i : Nat} (hi : i ≤ L) : ∀ (e : List Int), e.length ≤ L - i →
    scanRight L i (envMaps e) = .error (.freeIndex i)
  | [], _ => rfl
  | v :: e, hl => by
    rw [List.length_cons] at hl
    rw [envMaps, scanRight_single hi, if_neg (by omega)]
    exact scanRight_none hi e (by omega)

theorem getUnique_st (env : List Int) (c : Int) (i : Nat) :
    getUnique (st env c) i =
      match i with
      | 0 => .error (.freeIndex 0)
      | j + 1 =>
        match env[j]? with
        | some u => .ok u
        | none => .error (.freeIndex (j + 1)) := by
  show scanRight env.length i (BiMap.new :: envMaps env) = _
  by_cases hi : i ≤ env.length
  · have : scanRight env.length i (BiMap.new :: envMaps env) = scanRight env.length i (envMaps env) := by
      simp only [scanRight, hi, if_true, BiMap.getRight, BiMap.new, hmGet]
    rw [this]
    cases i with
    | zero => exact scanRight_none hi env (Nat.le_refl _)
    | succ j =>
      obtain ⟨u, hu⟩ : ∃ u, env[j]? = some u := ⟨env[j], List.getElem?_eq_getElem hi⟩
      simp only [hu]
      exact scanRight_found hi env j hu (by omega)
  · cases i with
    | zero => omega
    | succ j =>
      have : env[j]? = none := List.getElem?_eq_none (by omega)
      simp only [scanRight, hi, if_false, this]

section
variable {β : Type}

theorem specNameTo_var (mk : String → Nat → β) (env : List Int) (n : Name) :
    specNameTo mk env (.var n) =
      match resolve env n.unique with
      | some i => .ok (.var (mk n.text i))
      | none => .error (.freeUnique n) := rfl

theorem specToName_var (idx : β → Nat) (txt : β → Int → String) (env : List Int) (c : Int) (n : β) :
    specToName idx txt env c (.var n) =
      match idx n with
      | 0 => .error (.freeIndex 0)
      | i + 1 =>
        match env[i]? with
        | some u => .ok (.var ⟨txt n u, u⟩, c)
        | none => .error (.freeIndex (i + 1)) := rfl

theorem closedI_var (idx : β → Nat) (depth : Nat) (n : β) :
    closedI idx depth (.var n) = (decide (1 ≤ idx n) && decide (idx n ≤ depth)) := rfl

theorem specToName_var_ok {idx : β → Nat} {txt : β → Int → String} {env : List Int} {c : Int} {n : β}
    {r : Term Name × Int} (h : specToName idx txt env c (.var n) = .ok r) :
    ∃ j u, idx n = j + 1 ∧ env[j]? = some u ∧ r = (.var ⟨txt n u, u⟩, c) := by
  rw [specToName_var] at h
  split at h
  · cases h
  · rename_i j hj
    split at h
    · rename_i u hu
      cases h
      exact ⟨j, u, hj, hu, rfl⟩
    · cases h

theorem specNameTo_var_ok {mk : String → Nat → β} {env : List Int} {n : Name} {d : Term β}
    (h : specNameTo mk env (.var n) = .ok d) : ∃ i, resolve env n.unique = some i ∧ d = .var (mk n.text i) := by
  rw [specNameTo_var] at h
  split at h
  · rename_i i hi
    cases h
    exact ⟨i, hi, rfl⟩
  · cases h
end

section
variable {β : Type} (mk : String → Nat → β)

theorem nameTo_st :
    (∀ (t : Term Name) (env : List Int) (c : Int),
      nameTo mk t (st env c) = (specNameTo mk env t).map (fun r => (r, st env c))) ∧
    (∀ (ts : List (Term Name)) (env : List Int) (c : Int),
      nameToList mk ts (st env c) = (specNameToList mk env ts).map (fun r => (r, st env c))) := by
  apply term_ind
  case var =>
    intro n env c
    rw [specNameTo_var]
    show getIndex (st env c) n >>= _ = _
    rw [getIndex_st]
    cases resolve env n.unique <;> rfl
  case lam =>
    intro n b ih env c
    refine (ok_bind (declareUnique_st env c n.unique) _).trans ?_
    refine (ok_bind (getIndex_declared env c n) _).trans ?_
    -- then `startScope_declared`, by unfolding
    refine bind_congr_map (ih (n.unique :: env) c) fun b' => ?_
    refine (ok_bind (endScope_st env n.unique c) _).trans ?_
    exact ok_bind (removeUnique_declared env n.unique c) _
  -- the tag `case` is `term_ind`'s hypothesis for `Term.case`; like `app` and `cons` it runs two parts in sequence
  case app | case | cons =>
    exact fun _ _ ih1 ih2 env c => bind_congr_map (ih1 env c) fun _ => bind_congr_map (ih2 env c) fun _ => rfl
  case delay | force => exact fun _ ih env c => bind_congr_map (ih env c) fun _ => rfl
  case constr => exact fun _ _ ih env c => bind_congr_map (ih env c) fun _ => rfl
  case const | error | builtin | nil => intros; rfl

theorem nameToList_st : ∀ (ts : List (Term Name)) (env : List Int) (c : Int),
    nameToList mk ts (st env c) = (specNameToList mk env ts).map (fun r => (r, st env c)) :=
  (nameTo_st mk).2
end

section
variable {β : Type} (idx : β → Nat) (txt : β → Int → String)

theorem toName_st :
    (∀ (t : Term β) (env : List Int) (c : Int),
      toName true idx txt t (st env c) = (specToName idx txt env c t).map (fun r => (r.1, st env r.2))) ∧
    (∀ (ts : List (Term β)) (env : List Int) (c : Int),
      toNameList true idx txt ts (st env c) = (specToNameList idx txt env c ts).map (fun r => (r.1, st env r.2))) := by
  apply term_ind
  case var =>
    intro n env c
    rw [specToName_var]
    show getUnique (st env c) (idx n) >>= _ = _
    rw [getUnique_st]
    cases idx n with
    | zero => rfl
    | succ j => dsimp only; cases env[j]? <;> rfl
  case lam =>
    intro n b ih env c
    refine (ok_bind (declareBinder_st env c) _).trans ?_
    -- `fixed = true`: the binder is named by the unique it has just declared; `startScope_declared` by unfolding
    show toName true idx txt b (st (c :: env) (c + 1)) >>= _ = _
    refine bind_congr_map (ih (c :: env) (c + 1)) fun r => ?_
    refine (ok_bind (endScope_st env c r.2) _).trans ?_
    exact ok_bind (removeUnique_declared env c r.2) _
  case app | case | cons =>
    exact fun _ _ ih1 ih2 env c => bind_congr_map (ih1 env c) fun r => bind_congr_map (ih2 env r.2) fun _ => rfl
  case delay | force => exact fun _ ih env c => bind_congr_map (ih env c) fun _ => rfl
  case constr => exact fun _ _ ih env c => bind_congr_map (ih env c) fun _ => rfl
  case const | error | builtin | nil => intros; rfl

theorem toNameList_st : ∀ (ts : List (Term β)) (env : List Int) (c : Int),
    toNameList true idx txt ts (st env c) = (specToNameList idx txt env c ts).map (fun r => (r.1, st env r.2)) :=
  (toName_st idx txt).2
end

/-- what the name→index spec returns, in terms of the free occurrences -/
def NameDich (fo : List Name) {α : Type} (r : Except Err α) : Prop :=
  (fo = [] ∧ ∃ d, r = .ok d) ∨ (∃ n rest, fo = n :: rest ∧ r = .error (.freeUnique n))

namespace NameDich
variable {α γ : Type} {fo fo' : List Name} {r : Except Err α}

theorem pure (a : α) : NameDich [] (Pure.pure a : Except Err α) := .inl ⟨rfl, a, rfl⟩

theorem map (h : NameDich fo r) (g : α → γ) : NameDich fo (r >>= fun a => Pure.pure (g a)) := by
  rcases h with ⟨h, d, rfl⟩ | ⟨n, rest, h, rfl⟩
  · exact .inl ⟨h, g d, rfl⟩
  · exact .inr ⟨n, rest, h, rfl⟩

/-- in a sequence the error of the first part wins, as its free occurrences come first -/
theorem bind {k : α → Except Err γ} (h : NameDich fo r) (hk : ∀ a, NameDich fo' (k a)) :
    NameDich (fo ++ fo') (r >>= k) := by
  rcases h with ⟨rfl, d, rfl⟩ | ⟨n, rest, rfl, rfl⟩
  · exact hk d
  · exact .inr ⟨n, rest ++ fo', rfl, rfl⟩
end NameDich

section
variable {β : Type} (mk : String → Nat → β)

theorem specNameTo_dich :
    (∀ (t : Term Name) (env : List Int), NameDich (freeOccs env t) (specNameTo mk env t)) ∧
    (∀ (ts : List (Term Name)) (env : List Int), NameDich (freeOccsList env ts) (specNameToList mk env ts)) := by
  apply term_ind
  case var =>
    intro n env
    rw [specNameTo_var]
    show NameDich (if n.unique ∈ env then [] else [n]) _
    by_cases h : n.unique ∈ env
    · rw [if_pos h]
      cases hr : resolve env n.unique with
      | none => exact absurd h ((resolve_none_iff env n.unique).mp hr)
      | some i => exact .pure _
    · rw [if_neg h, (resolve_none_iff env n.unique).mpr h]
      exact .inr ⟨n, [], rfl, rfl⟩
  case lam => exact fun m _ ih env => (ih (m.unique :: env)).map _
  case app | case | cons => exact fun _ _ ih1 ih2 env => (ih1 env).bind fun _ => (ih2 env).map _
  case delay | force => exact fun _ ih env => (ih env).map _
  case constr => exact fun _ _ ih env => (ih env).map _
  case const | error | builtin | nil => intros; exact .pure _

theorem specNameToList_dich : ∀ (ts : List (Term Name)) (env : List Int),
    NameDich (freeOccsList env ts) (specNameToList mk env ts) :=
  (specNameTo_dich mk).2
end

/-- what the index→name spec returns, in terms of closedness -/
def IdxDich (closed : Bool) {α : Type} (r : Except Err α) : Prop :=
  (closed = true ∧ ∃ d, r = .ok d) ∨ (closed = false ∧ ∃ i, r = .error (.freeIndex i))

namespace IdxDich
variable {α γ : Type} {b b' : Bool} {r : Except Err α}

theorem pure (a : α) : IdxDich true (Pure.pure a : Except Err α) := .inl ⟨rfl, a, rfl⟩

theorem map (h : IdxDich b r) (g : α → γ) : IdxDich b (r >>= fun a => Pure.pure (g a)) := by
  rcases h with ⟨h, d, rfl⟩ | ⟨h, i, rfl⟩
  · exact .inl ⟨h, g d, rfl⟩
  · exact .inr ⟨h, i, rfl⟩

theorem bind {k : α → Except Err γ} (h : IdxDich b r) (hk : ∀ a, IdxDich b' (k a)) :
    IdxDich (b && b') (r >>= k) := by
  rcases h with ⟨rfl, d, rfl⟩ | ⟨rfl, i, rfl⟩
  · exact hk d
  · exact .inr ⟨rfl, i, rfl⟩
end IdxDich

section
variable {β : Type} (idx : β → Nat) (txt : β → Int → String)

theorem specToName_dich :
    (∀ (t : Term β) (env : List Int) (c : Int), IdxDich (closedI idx env.length t) (specToName idx txt env c t)) ∧
    (∀ (ts : List (Term β)) (env : List Int) (c : Int),
      IdxDich (closedIList idx env.length ts) (specToNameList idx txt env c ts)) := by
  apply term_ind
  case var =>
    intro n env c
    rw [specToName_var, closedI_var]
    cases idx n with
    | zero => exact .inr ⟨rfl, 0, rfl⟩
    | succ j =>
      dsimp only
      cases hj : env[j]? with
      | none =>
        have : env.length ≤ j := List.getElem?_eq_none_iff.mp hj
        exact .inr ⟨Bool.and_eq_false_iff.mpr (.inr (decide_eq_false (Nat.not_le_of_lt (Nat.lt_succ_of_le this)))), j + 1, rfl⟩
      | some u =>
        have : j < env.length := (List.getElem?_eq_some_iff.mp hj).1
        exact .inl ⟨Bool.and_eq_true_iff.mpr ⟨decide_eq_true (Nat.succ_pos j), decide_eq_true this⟩, _, rfl⟩
  case lam => exact fun _ _ ih env c => (ih (c :: env) (c + 1)).map _
  case app | case | cons => exact fun _ _ ih1 ih2 env c => (ih1 env c).bind fun r => (ih2 env r.2).map _
  case delay | force => exact fun _ ih env c => (ih env c).map _
  case constr => exact fun _ _ ih env c => (ih env c).map _
  case const | error | builtin | nil => intros; exact .pure _

theorem specToNameList_dich : ∀ (ts : List (Term β)) (env : List Int) (c : Int),
    IdxDich (closedIList idx env.length ts) (specToNameList idx txt env c ts) :=
  (specToName_dich idx txt).2

theorem specToName_mono :
    (∀ (t : Term β) (env : List Int) (c : Int), Ensures (specToName idx txt env c t) fun r => c ≤ r.2) ∧
    (∀ (ts : List (Term β)) (env : List Int) (c : Int), Ensures (specToNameList idx txt env c ts) fun r => c ≤ r.2) := by
  apply term_ind
  case var =>
    intro n env c r h
    obtain ⟨_, _, _, _, rfl⟩ := specToName_var_ok h
    exact Int.le_refl c
  -- the other arms follow the fold: `Ensures.bind` hands on a result of the part just run, the equation
  -- saying so, and what the induction hypothesis ensures of it; `.pure` is met with the final result
  case lam =>
    exact fun _ _ ih env c => (ih (c :: env) (c + 1)).bind fun _ _ h =>
      .pure (Int.le_trans (Int.le_add_one (Int.le_refl c)) h)
  case app | case | cons =>
    exact fun _ _ ih1 ih2 env c => (ih1 env c).bind fun r _ h1 => (ih2 env r.2).bind fun _ _ h2 =>
      .pure (Int.le_trans h1 h2)
  case delay | force => exact fun _ ih env c => (ih env c).bind fun _ _ h => .pure h
  case constr => exact fun _ _ ih env c => (ih env c).bind fun _ _ h => .pure h
  case const | error | builtin | nil => intros; exact .pure (Int.le_refl _)

theorem specToNameList_mono : ∀ (ts : List (Term β)) (env : List Int) (c : Int) (r : List (Term Name) × Int),
    specToNameList idx txt env c ts = .ok r → c ≤ r.2 :=
  (specToName_mono idx txt).2
end

theorem Fresh.cons {env : List Int} {c : Int} (h : Fresh env c) : Fresh (c :: env) (c + 1) := by
  refine ⟨List.nodup_cons.mpr ⟨fun hm => ?_, h.1⟩, fun u hu => ?_⟩
  · have := h.2 c hm; omega
  · rcases List.mem_cons.mp hu with rfl | hu
    · omega
    · have := h.2 u hu; omega

theorem Fresh.mono {env : List Int} {c c' : Int} (h : Fresh env c) (hc : c ≤ c') : Fresh env c' :=
  ⟨h.1, fun u hu => Int.lt_of_lt_of_le (h.2 u hu) hc⟩

theorem Fresh.after {β : Type} {idx : β → Nat} {txt : β → Int → String} {env : List Int} {c : Int} {t : Term β}
    {r : Term Name × Int} (h : Fresh env c) (hr : specToName idx txt env c t = .ok r) : Fresh env r.2 :=
  h.mono ((specToName_mono idx txt).1 t env c r hr)

theorem Fresh.nil : Fresh [] 0 := ⟨List.nodup_nil, fun _ h => by cases h⟩

section
variable {β γ : Type} (idx : β → Nat) (txt : β → Int → String)
variable (mk : String → Nat → γ) (g : β → Nat → γ) (hg : ∀ n u i, mk (txt n u) i = g n i)
include hg

theorem roundtrip_gen :
    (∀ (t : Term β) (env : List Int) (c : Int), Fresh env c →
      Ensures (specToName idx txt env c t) fun r => specNameTo mk env r.1 = .ok (normBinders g idx t)) ∧
    (∀ (ts : List (Term β)) (env : List Int) (c : Int), Fresh env c →
      Ensures (specToNameList idx txt env c ts) fun r => specNameToList mk env r.1 = .ok (normBindersList g idx ts)) := by
  apply term_ind
  case var =>
    intro n env c hf r h
    obtain ⟨j, u, hj, hu, rfl⟩ := specToName_var_ok h
    rw [specNameTo_var, resolve_of_getElem env j u hf.1 hu]
    show Except.ok (Term.var (mk (txt n u) (j + 1))) = Except.ok (Term.var (g n (idx n)))
    rw [hg, hj]
  case lam =>
    intro m b ih env c hf
    refine (ih (c :: env) (c + 1) hf.cons).bind fun _ _ h => .pure (bind_eq_ok h ?_)
    show Except.ok (Term.lam (mk (txt m c) 0) _) = Except.ok (Term.lam (g m 0) _)
    rw [hg]
  case app | case | cons =>
    -- the second part runs with the counter the first has left
    exact fun _ _ ih1 ih2 env c hf => (ih1 env c hf).bind fun r e h1 =>
      (ih2 env r.2 (hf.after e)).bind fun _ _ h2 => .pure (bind_eq_ok h1 (bind_eq_ok h2 rfl))
  case delay | force => exact fun _ ih env c hf => (ih env c hf).bind fun _ _ h => .pure (bind_eq_ok h rfl)
  case constr => exact fun _ _ ih env c hf => (ih env c hf).bind fun _ _ h => .pure (bind_eq_ok h rfl)
  case const | error | builtin | nil => intros; exact .pure rfl

theorem roundtripList_gen : ∀ (ts : List (Term β)) (env : List Int) (c : Int) (r : List (Term Name) × Int),
    specToNameList idx txt env c ts = .ok r → Fresh env c → specNameToList mk env r.1 = .ok (normBindersList g idx ts) :=
  fun ts env c r h hf => (roundtrip_gen idx txt mk g hg).2 ts env c hf r h
end

section
variable {β : Type} (idx : β → Nat) (txt : β → Int → String)
variable (mk : String → Nat → β) (hidx : ∀ s i, idx (mk s i) = i)
include hidx

theorem alpha_gen :
    (∀ (t : Term Name) (e1 : List Int), Ensures (specNameTo mk e1 t) fun d =>
      ∀ (e2 : List Int) (c : Int), Fresh e2 c → Ensures (specToName idx txt e2 c d) fun r => AlphaEq e1 e2 t r.1) ∧
    (∀ (ts : List (Term Name)) (e1 : List Int), Ensures (specNameToList mk e1 ts) fun d =>
      ∀ (e2 : List Int) (c : Int), Fresh e2 c → Ensures (specToNameList idx txt e2 c d) fun r => AlphaEqL e1 e2 ts r.1) := by
  -- The outer `bind`s follow name → index on `t` and leave, for each part, `h : ∀ e2 c, Fresh e2 c → Ensures …`.
  -- After `.pure fun e2 c hf` the inner `bind`s follow index → name on the result, and the last `.pure` is
  -- the rule of `AlphaEq`/`AlphaEqL` for the constructor at hand (found by `constructor` where arms are shared).
  apply term_ind
  case var =>
    intro n e1 d h e2 c hf r h2
    obtain ⟨i, hi, rfl⟩ := specNameTo_var_ok h
    obtain ⟨j, u, hj, hu, rfl⟩ := specToName_var_ok h2
    rw [hidx] at hj
    refine .var ?_ (fun hn => ?_)
    · rw [hi, hj]
      exact (resolve_of_getElem e2 j u hf.1 hu).symm
    · rw [hi] at hn
      cases hn
  case lam =>
    exact fun m _ ih e1 => (ih (m.unique :: e1)).bind fun _ _ h => .pure fun e2 c hf =>
      (h (c :: e2) (c + 1) hf.cons).bind fun _ _ a => .pure (.lam a)
  case app | case | cons =>
    exact fun _ _ ih1 ih2 e1 => (ih1 e1).bind fun _ _ h1 => (ih2 e1).bind fun _ _ h2 => .pure fun e2 c hf =>
      (h1 e2 c hf).bind fun r e a1 => (h2 e2 r.2 (hf.after e)).bind fun _ _ a2 =>
        .pure (by constructor <;> assumption)
  case delay | force =>
    exact fun _ ih e1 => (ih e1).bind fun _ _ h => .pure fun e2 c hf =>
      (h e2 c hf).bind fun _ _ a => .pure (by constructor; exact a)
  case constr =>
    exact fun _ _ ih e1 => (ih e1).bind fun _ _ h => .pure fun e2 c hf =>
      (h e2 c hf).bind fun _ _ a => .pure (.constr a)
  case const | error | builtin | nil => intros; exact .pure fun _ _ _ => .pure (by constructor)

theorem alphaList_gen : ∀ (ts : List (Term Name)) (e1 : List Int) (d : List (Term β)), specNameToList mk e1 ts = .ok d →
    ∀ (e2 : List Int) (c : Int) (r : List (Term Name) × Int), specToNameList idx txt e2 c d = .ok r → Fresh e2 c →
      AlphaEqL e1 e2 ts r.1 :=
  fun ts e1 d h e2 c r h2 hf => (alpha_gen idx txt mk hidx).2 ts e1 d h e2 c hf r h2

theorem specNameTo_closed :
    (∀ (t : Term Name) (env : List Int), Ensures (specNameTo mk env t) fun d => closedI idx env.length d = true) ∧
    (∀ (ts : List (Term Name)) (env : List Int),
      Ensures (specNameToList mk env ts) fun d => closedIList idx env.length d = true) := by
  apply term_ind
  case var =>
    intro n env d h
    obtain ⟨i, hi, rfl⟩ := specNameTo_var_ok h
    rw [closedI_var, hidx]
    simp only [Bool.and_eq_true, decide_eq_true_eq]
    exact resolve_bounds env n.unique i hi
  case lam => exact fun m _ ih env => (ih (m.unique :: env)).bind fun _ _ h => .pure h
  case app | case | cons =>
    exact fun _ _ ih1 ih2 env => (ih1 env).bind fun _ _ h1 => (ih2 env).bind fun _ _ h2 =>
      .pure (Bool.and_eq_true_iff.mpr ⟨h1, h2⟩)
  case delay | force => exact fun _ ih env => (ih env).bind fun _ _ h => .pure h
  case constr => exact fun _ _ ih env => (ih env).bind fun _ _ h => .pure h
  case const | error | builtin | nil => intros; exact .pure rfl

theorem specNameToList_closed : ∀ (ts : List (Term Name)) (env : List Int) (d : List (Term β)), specNameToList mk env ts = .ok d →
    closedIList idx env.length d = true :=
  (specNameTo_closed idx mk hidx).2
end

/-- the de Bruijn image used to compare binding structure -/
abbrev dbImage (env : List Int) (t : Term Name) : Except Err (Term DeBruijn) :=
  specNameTo (fun _ i => (i : DeBruijn)) env t
abbrev dbImageList (env : List Int) (ts : List (Term Name)) : Except Err (List (Term DeBruijn)) :=
  specNameToList (fun _ i => (i : DeBruijn)) env ts

/-- `AlphaEq` is not weaker than "every variable refers to the same binder" -/
theorem alpha_sound :
    (∀ (t : Term Name) (e1 e2 : List Int) (t' : Term Name), AlphaEq e1 e2 t t' →
      Ensures (dbImage e1 t) fun d => dbImage e2 t' = .ok d) ∧
    (∀ (ts : List (Term Name)) (e1 e2 : List Int) (ts' : List (Term Name)), AlphaEqL e1 e2 ts ts' →
      Ensures (dbImageList e1 ts) fun d => dbImageList e2 ts' = .ok d) := by
  apply term_ind
  case var =>
    intro n e1 e2 t' h d hd
    cases h with
    | var h1 _ =>
      obtain ⟨i, hi, rfl⟩ := specNameTo_var_ok hd
      rw [dbImage, specNameTo_var, ← h1, hi]
  case app | case | cons =>
    intro _ _ ih1 ih2 e1 e2 t' h
    -- inversion: one rule of `AlphaEq`/`AlphaEqL` fits the constructor at hand; `h1`, `h2` are its premises
    cases h
    rename_i h1 h2
    exact (ih1 _ _ _ h1).bind fun _ _ hd1 => (ih2 _ _ _ h2).bind fun _ _ hd2 =>
      .pure (bind_eq_ok hd1 (bind_eq_ok hd2 rfl))
  case lam | constr =>
    intro _ _ ih e1 e2 t' h
    cases h
    rename_i h1
    exact (ih _ _ _ h1).bind fun _ _ hd => .pure (bind_eq_ok hd rfl)
  case delay | force =>
    intro _ ih e1 e2 t' h
    cases h
    rename_i h1
    exact (ih _ _ _ h1).bind fun _ _ hd => .pure (bind_eq_ok hd rfl)
  case const | error | builtin | nil =>
    intros
    rename_i h
    cases h
    exact .pure rfl

theorem alphaList_sound : ∀ (ts : List (Term Name)) (e1 e2 : List Int) (ts' : List (Term Name)), AlphaEqL e1 e2 ts ts' →
    ∀ d, dbImageList e1 ts = .ok d → dbImageList e2 ts' = .ok d :=
  alpha_sound.2

section
variable {β γ : Type} (mk : String → Nat → β) (f : β → γ)

theorem specNameTo_natural :
    (∀ (t : Term Name) (env : List Int),
      specNameTo (fun s i => f (mk s i)) env t = (specNameTo mk env t).map (mapBinders f)) ∧
    (∀ (ts : List (Term Name)) (env : List Int),
      specNameToList (fun s i => f (mk s i)) env ts = (specNameToList mk env ts).map (mapBindersList f)) := by
  apply term_ind
  case var =>
    intro n env
    rw [specNameTo_var, specNameTo_var]
    cases resolve env n.unique <;> rfl
  case lam => exact fun m _ ih env => bind_congr_map (ih (m.unique :: env)) fun _ => rfl
  case app | case | cons =>
    exact fun _ _ ih1 ih2 env => bind_congr_map (ih1 env) fun _ => bind_congr_map (ih2 env) fun _ => rfl
  case delay | force => exact fun _ ih env => bind_congr_map (ih env) fun _ => rfl
  case constr => exact fun _ _ ih env => bind_congr_map (ih env) fun _ => rfl
  case const | error | builtin | nil => intros; rfl

theorem specNameToList_natural : ∀ (ts : List (Term Name)) (env : List Int),
    specNameToList (fun s i => f (mk s i)) env ts = (specNameToList mk env ts).map (mapBindersList f) :=
  (specNameTo_natural mk f).2
end

theorem zeroBinders_id :
    (∀ (t : Term DeBruijn), bindersZero id t = true → normBinders (fun _ i => i) id t = t) ∧
    (∀ (ts : List (Term DeBruijn)), bindersZeroList id ts = true → normBindersList (fun _ i => i) id ts = ts) := by
  apply term_ind
  case lam =>
    intro _ _ ih h
    obtain ⟨hm, hb⟩ := Bool.and_eq_true_iff.mp h
    exact congrArg₂ Term.lam (beq_iff_eq.mp hm).symm (ih hb)
  case app | case | cons =>
    intro _ _ ih1 ih2 h
    obtain ⟨h1, h2⟩ := Bool.and_eq_true_iff.mp h
    exact congrArg₂ _ (ih1 h1) (ih2 h2)
  case delay | force => exact fun _ ih h => congrArg _ (ih h)
  case constr => exact fun _ _ ih h => congrArg _ (ih h)
  case var | const | error | builtin | nil => intros; rfl

theorem zeroBindersList_id : ∀ (ts : List (Term DeBruijn)), bindersZeroList id ts = true → normBindersList (fun _ i => i) id ts = ts :=
  zeroBinders_id.2

theorem mapBinders_comp {α β γ : Type} (f : α → β) (g : β → γ) :
    (∀ (t : Term α), mapBinders g (mapBinders f t) = mapBinders (fun x => g (f x)) t) ∧
    (∀ (ts : List (Term α)), mapBindersList g (mapBindersList f ts) = mapBindersList (fun x => g (f x)) ts) := by
  apply term_ind <;> intros <;> simp [*, mapBinders, mapBindersList]

theorem mapBindersList_comp {α β γ : Type} (f : α → β) (g : β → γ) : ∀ (ts : List (Term α)),
    mapBindersList g (mapBindersList f ts) = mapBindersList (fun x => g (f x)) ts :=
  (mapBinders_comp f g).2

theorem mapBinders_id {α : Type} :
    (∀ (t : Term α), mapBinders (fun x => x) t = t) ∧ (∀ (ts : List (Term α)), mapBindersList (fun x => x) ts = ts) := by
  apply term_ind <;> intros <;> simp [*, mapBinders, mapBindersList]

theorem mapBindersList_id {α : Type} : ∀ (ts : List (Term α)), mapBindersList (fun x => x) ts = ts :=
  mapBinders_id.2

section
variable {β : Type} (mk : String → Nat → β)

theorem nameTo_new (t : Term Name) : (nameTo mk t Conv.new).map (·.1) = specNameTo mk [] t := by
  rw [conv_new, (nameTo_st mk).1]
  cases specNameTo mk [] t <;> rfl

theorem nameTo_new_err_iff (t : Term Name) (e : Err) :
    (nameTo mk t Conv.new).map (·.1) = .error e ↔ ∃ n rest, freeOccs [] t = n :: rest ∧ e = .freeUnique n := by
  rw [nameTo_new]
  rcases (specNameTo_dich mk).1 t [] with ⟨h, d, hd⟩ | ⟨n, rest, h, hd⟩
  · simp [h, hd]
  · simp [h, hd, eq_comm]

theorem nameTo_new_ok_iff (t : Term Name) :
    (∃ d, (nameTo mk t Conv.new).map (·.1) = .ok d) ↔ freeOccs [] t = [] := by
  rw [nameTo_new]
  rcases (specNameTo_dich mk).1 t [] with ⟨h, d, hd⟩ | ⟨n, rest, h, hd⟩ <;> simp [h, hd]
end

section
variable {β : Type} (idx : β → Nat) (txt : β → Int → String)

theorem toName_new (t : Term β) :
    (toName true idx txt t Conv.new).map (·.1) = (specToName idx txt [] 0 t).map (·.1) := by
  rw [conv_new, (toName_st idx txt).1]
  cases specToName idx txt [] 0 t <;> rfl

theorem toName_new_err_iff (t : Term β) :
    (∃ e, (toName true idx txt t Conv.new).map (·.1) = .error e) ↔ closedI idx 0 t = false := by
  rw [toName_new]
  rcases (specToName_dich idx txt).1 t [] 0 with ⟨h, d, hd⟩ | ⟨h, i, hd⟩ <;>
    simp [show closedI idx 0 t = _ from h, hd, Except.map]

theorem toName_new_err_is_freeIndex (t : Term β) (e : Err) (h : (toName true idx txt t Conv.new).map (·.1) = .error e) :
    ∃ i, e = .freeIndex i := by
  rw [toName_new] at h
  rcases (specToName_dich idx txt).1 t [] 0 with ⟨_, d, hd⟩ | ⟨_, i, hd⟩ <;> rw [hd] at h <;> cases h
  exact ⟨i, rfl⟩

theorem toName_new_ok (t : Term β) (hc : closedI idx 0 t = true) :
    ∃ r, specToName idx txt [] 0 t = .ok r ∧ (toName true idx txt t Conv.new).map (·.1) = .ok r.1 := by
  rcases (specToName_dich idx txt).1 t [] 0 with ⟨_, r, hr⟩ | ⟨h, _⟩
  · exact ⟨r, hr, by rw [toName_new, hr]; rfl⟩
  · rw [show closedI idx 0 t = false from h] at hc
    cases hc

theorem roundtrip_new {γ : Type} (mk : String → Nat → γ) (g : β → Nat → γ) (hg : ∀ n u i, mk (txt n u) i = g n i)
    (t : Term β) (hc : closedI idx 0 t = true) :
    ∃ t', (toName true idx txt t Conv.new).map (·.1) = .ok t' ∧
      (nameTo mk t' Conv.new).map (·.1) = .ok (normBinders g idx t) := by
  obtain ⟨r, hr, hrun⟩ := toName_new_ok idx txt t hc
  exact ⟨r.1, hrun, by rw [nameTo_new]; exact (roundtrip_gen idx txt mk g hg).1 t [] 0 Fresh.nil r hr⟩

theorem alpha_new (mk : String → Nat → β) (hidx : ∀ s i, idx (mk s i) = i) (t : Term Name) (d : Term β)
    (h : (nameTo mk t Conv.new).map (·.1) = .ok d) :
    ∃ t', (toName true idx txt d Conv.new).map (·.1) = .ok t' ∧ AlphaEq [] [] t t' := by
  rw [nameTo_new] at h
  obtain ⟨r, hr, hrun⟩ := toName_new_ok idx txt d ((specNameTo_closed idx mk hidx).1 t [] d h)
  exact ⟨r.1, hrun, (alpha_gen idx txt mk hidx).1 t [] d h [] 0 Fresh.nil r hr⟩
end

end AikenVerif.Db
