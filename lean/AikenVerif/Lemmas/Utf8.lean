import AikenVerif.Model.Builtin
/-! `decodeUtf8` inverts `encodeUtf8` (the decoder of the model against core's `String.utf8EncodeChar`) -/
namespace AikenVerif

theorem u8_ofNat_toNat (x : Nat) (h : x < 256) : (UInt8.ofNat x).toNat = x := by
  simp [UInt8.toNat_ofNat', Nat.mod_eq_of_lt h]

/-- the low digits of `x` in base `a`, then one digit in base `b`, make `x` modulo `a * b` -/
theorem digit_add_mod (x a b c : Nat) (h : a * b = c) : x / a % b * a + x % a = x % c := by
  rw [← h, Nat.mod_mul, Nat.mul_comm, Nat.add_comm]

/-- a continuation byte `10dddddd` -/
theorem contByte (d : Nat) (h : d < 64) :
    (UInt8.ofNat (d + 0x80)).toNat - 0x80 = d ∧
    (decide (0x80 ≤ (UInt8.ofNat (d + 0x80)).toNat) && decide ((UInt8.ofNat (d + 0x80)).toNat ≤ 0xBF)) = true := by
  have hle : d + 0x80 ≤ 0xBF := Nat.add_le_add_right (Nat.le_of_lt_succ h) 0x80
  rw [u8_ofNat_toNat _ (Nat.lt_of_le_of_lt hle (by decide)), Bool.and_eq_true, decide_eq_true_eq, decide_eq_true_eq]
  exact ⟨Nat.add_sub_cancel .., Nat.le_add_left _ _, hle⟩

/-- a lead byte lies in its own class `lo … hi` and in none below -/
theorem leadByte (d lo hi : Nat) (h : d + lo ≤ hi) (hhi : hi < 256) :
    (UInt8.ofNat (d + lo)).toNat = d + lo ∧ (lo ≤ d + lo ∧ d + lo ≤ hi) ∧
      (∀ c, c ≤ lo → ¬ d + lo < c) ∧ ∀ c, c < lo → ¬ d + lo ≤ c := by
  have hlo : lo ≤ d + lo := Nat.le_add_left _ _
  exact ⟨u8_ofNat_toNat _ (Nat.lt_of_le_of_lt h hhi), ⟨hlo, h⟩, fun c hc => Nat.not_lt.mpr (Nat.le_trans hc hlo),
    fun c hc => Nat.not_le.mpr (Nat.lt_of_lt_of_le hc hlo)⟩

theorem utf8Decode_one (d : Nat) (rest : Bytes) (h : d < 0x80) :
    utf8Decode (UInt8.ofNat d :: rest) = (utf8Decode rest).map (Char.ofNat d :: ·) := by
  conv => lhs; unfold utf8Decode
  simp only [u8_ofNat_toNat d (Nat.lt_trans h (by decide)), h, if_true]

theorem utf8Decode_two (d0 d1 : Nat) (rest : Bytes) (h0 : 2 ≤ d0 ∧ d0 < 32) (h1 : d1 < 64) :
    utf8Decode (UInt8.ofNat (d0 + 0xC0) :: UInt8.ofNat (d1 + 0x80) :: rest) =
      (utf8Decode rest).map (Char.ofNat (d0 * 64 + d1) :: ·) := by
  conv => lhs; unfold utf8Decode
  obtain ⟨e0, c0, lt, -⟩ := leadByte d0 0xC0 0xDF (Nat.add_le_add_right (Nat.le_of_lt_succ h0.2) _) (by decide)
  have c2 : 0xC2 ≤ d0 + 0xC0 := (Nat.add_le_add_right h0.1 0xC0 : 2 + 0xC0 ≤ d0 + 0xC0)
  simp only [e0, contByte d1 h1, Nat.add_sub_cancel, lt 0x80 (by decide), c0, c2, if_false, decide_true,
    Bool.and_self, if_true]

theorem utf8Decode_three (d0 d1 d2 : Nat) (rest : Bytes) (cp : Nat) (h0 : d0 < 16) (h1 : d1 < 64) (h2 : d2 < 64)
    (hcp : d0 * 4096 + d1 * 64 + d2 = cp) (hlo : 0x800 ≤ cp) (hsur : ¬ (0xD800 ≤ cp ∧ cp ≤ 0xDFFF)) :
    utf8Decode (UInt8.ofNat (d0 + 0xE0) :: UInt8.ofNat (d1 + 0x80) :: UInt8.ofNat (d2 + 0x80) :: rest) =
      (utf8Decode rest).map (Char.ofNat cp :: ·) := by
  conv => lhs; unfold utf8Decode
  obtain ⟨e0, c0, lt, le⟩ := leadByte d0 0xE0 0xEF (Nat.add_le_add_right (Nat.le_of_lt_succ h0) _) (by decide)
  simp only [e0, contByte d1 h1, contByte d2 h2, Nat.add_sub_cancel, hcp, lt 0x80 (by decide), le 0xDF (by decide),
    c0, hlo, hsur, if_false, decide_true, decide_false, Bool.and_self, Bool.and_false, Bool.false_eq_true, if_true,
    Bool.not_false, ← Bool.decide_and]

theorem utf8Decode_four (d0 d1 d2 d3 : Nat) (rest : Bytes) (cp : Nat) (h0 : d0 ≤ 4) (h1 : d1 < 64) (h2 : d2 < 64)
    (h3 : d3 < 64) (hcp : d0 * 262144 + d1 * 4096 + d2 * 64 + d3 = cp) (hlo : 0x10000 ≤ cp) (hhi : cp ≤ 0x10FFFF) :
    utf8Decode (UInt8.ofNat (d0 + 0xF0) :: UInt8.ofNat (d1 + 0x80) :: UInt8.ofNat (d2 + 0x80) ::
      UInt8.ofNat (d3 + 0x80) :: rest) = (utf8Decode rest).map (Char.ofNat cp :: ·) := by
  conv => lhs; unfold utf8Decode
  obtain ⟨e0, c0, lt, le⟩ := leadByte d0 0xF0 0xF4 (Nat.add_le_add_right h0 _) (by decide)
  simp only [e0, contByte d1 h1, contByte d2 h2, contByte d3 h3, Nat.add_sub_cancel, hcp, lt 0x80 (by decide),
    le 0xDF (by decide), le 0xEF (by decide), c0, hlo, hhi, if_false, decide_true, decide_false, Bool.and_self,
    Bool.and_false, Bool.false_eq_true, if_true]

/-- the payload digits of the encoder are the base-64 digits of the code point, which `digit_add_mod` sums
back up -/
theorem utf8Decode_encodeChar (c : Char) (rest : Bytes) :
    utf8Decode (String.utf8EncodeChar c ++ rest) = (utf8Decode rest).map (c :: ·) := by
  have hc : Char.ofNat c.val.toNat = c := Char.ofNat_toNat c
  have hval : c.val.toNat < 0xD800 ∨ (0xDFFF < c.val.toNat ∧ c.val.toNat < 0x110000) := c.valid
  unfold String.utf8EncodeChar
  generalize c.val.toNat = v at hval hc ⊢
  have m64 (x : Nat) : x % 64 < 64 := Nat.mod_lt x (by decide)
  by_cases h1 : v ≤ 0x7f
  · simp only [h1, if_true, List.cons_append, List.nil_append]
    rw [utf8Decode_one _ _ (Nat.lt_succ_of_le h1), hc]
  · by_cases h2 : v ≤ 0x7ff
    · simp only [h1, h2, if_true, if_false, List.cons_append, List.nil_append]
      rw [utf8Decode_two _ _ _ (by omega) (m64 v), digit_add_mod v 64 32 2048 rfl,
        Nat.mod_eq_of_lt (Nat.lt_succ_of_le h2), hc]
    · by_cases h3 : v ≤ 0xffff
      · simp only [h1, h2, h3, if_true, if_false, List.cons_append, List.nil_append]
        rw [utf8Decode_three _ _ _ _ v (Nat.mod_lt _ (by decide)) (m64 _) (m64 v) ?_ (Nat.lt_of_not_le h2)
          (by omega), hc]
        rw [Nat.add_assoc, digit_add_mod v 64 64 4096 rfl, digit_add_mod v 4096 16 65536 rfl,
          Nat.mod_eq_of_lt (Nat.lt_succ_of_le h3)]
      · simp only [h1, h2, h3, if_false, List.cons_append, List.nil_append]
        rw [utf8Decode_four _ _ _ _ _ v (by omega) (m64 _) (m64 _) (m64 v) ?_ (Nat.lt_of_not_le h3) (by omega), hc]
        rw [Nat.add_assoc, Nat.add_assoc, digit_add_mod v 64 64 4096 rfl, digit_add_mod v 4096 64 262144 rfl,
          digit_add_mod v 262144 8 2097152 rfl, Nat.mod_eq_of_lt (by omega)]

theorem utf8Decode_utf8Encode : ∀ s : List Char, utf8Decode (utf8Encode s) = some s
  | [] => rfl
  | c :: cs => by
    rw [utf8Encode, List.flatMap_cons, utf8Decode_encodeChar, ← utf8Encode, utf8Decode_utf8Encode cs]
    rfl

end AikenVerif
