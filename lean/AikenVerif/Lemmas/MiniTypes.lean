import AikenVerif.Lemmas.Mini
/-!
# Type soundness of the MiniAiken source semantics (first-order fragment)

A simple type system for the first-order part of `Model/Mini.lean`, and the proof that a well-typed
expression of a well-typed program NEVER evaluates to `stuck`, whatever the fuel, the tracing mode
and the (well-typed) arguments; when it yields a value, the value has the expression's type.
`stuck` is the model's image of the structural machine errors of C06.

User data types (constructors, field access, constructor patterns) and tuple indexing are typed
against the program's `adts` table; `Data` up-casts are total on typed values (`toData_total`) and a
successful down-cast yields a value of the requested type (`fromData_ty`).  Not covered (hence
`…_partial` in `Props/C06.lean`): closures / higher-order application.  `MTy.opt` is a type of values
only: `valTy` and `fromData` know it, but `HasTy.con` builds user types and `patCtx` has no clause at
`.opt`, so a typed program gets an `Option` from a down-cast and can pass it on, compare it or cast it
back, not build one or match on it.
-/
namespace AikenVerif.Mini

abbrev Ctx := List (Nat × MTy)
/-- the user data types of a program: per type, per constructor, the field types -/
abbrev Adts := List (List (List MTy))
/-- signatures of the top-level functions: parameter types and result type -/
abbrev Sig := List (List MTy × MTy)

def lookupTy : Ctx → Nat → Option MTy
  | [], _ => none
  | (y, t) :: rest, x => if x = y then some t else lookupTy rest x

mutual
  def valTy (A : Adts) : Val → MTy → Bool
    | .int _, .int => true
    | .bool _, .bool => true
    | .bytes _, .bytes => true
    | .unit, .void => true
    | .str _, .str => true
    | .list vs, .list t => allTy A vs t
    | .tuple vs, .tup ts => zipTy A vs ts
    | .con tag vs, .adt i =>
      match A[i]? with
      | some ctors =>
        match ctors[tag]? with
        | some tys => zipTy A vs tys
        | none => false
      | none => false
    | .con tag vs, .opt t => (tag == 0 && zipTy A vs [t]) || (tag == 1 && vs.isEmpty)
    | .data _, .data => true
    | _, _ => false
  def allTy (A : Adts) : List Val → MTy → Bool
    | [], _ => true
    | v :: vs, t => valTy A v t && allTy A vs t
  def zipTy (A : Adts) : List Val → List MTy → Bool
    | [], [] => true
    | v :: vs, t :: ts => valTy A v t && zipTy A vs ts
    | _, _ => false
end

def envOk (A : Adts) : Ctx → Env → Prop
  | [], [] => True
  | (x, t) :: Γ, (y, v) :: env => x = y ∧ valTy A v t = true ∧ envOk A Γ env
  | _, _ => False

mutual
  /-- the bindings of a pattern at a type (newest first, as `matchPat` returns them) -/
  def patCtx (A : Adts) : Pat → MTy → Option Ctx
    | .wild, _ => some []
    | .var x, t => some [(x, t)]
    | .int _, .int => some []
    | .bytes _, .bytes => some []
    | .bool _, .bool => some []
    | .tuple ps, .tup ts => patsCtx A ps ts
    | .con tag ps, .adt i =>
      match A[i]? with
      | some ctors =>
        match ctors[tag]? with
        | some tys => patsCtx A ps tys
        | none => none
      | none => none
    | .nil, .list _ => some []
    | .cons h tl, .list t =>
      match patCtx A h t with
      | some c1 =>
        match patCtx A tl (.list t) with
        | some c2 => some (c2 ++ c1)
        | none => none
      | none => none
    | _, _ => none
  def patsCtx (A : Adts) : List Pat → List MTy → Option Ctx
    | [], [] => some []
    | p :: ps, t :: ts =>
      match patCtx A p t with
      | some c1 =>
        match patsCtx A ps ts with
        | some c2 => some (c2 ++ c1)
        | none => none
      | none => none
    | _, _ => none
end

inductive UnTy (A : Adts) : UnOp → MTy → MTy → Prop
  | neg : UnTy A .neg .int .int
  | not : UnTy A .not .bool .bool
  | len : UnTy A .len .bytes .int
  /-- field access: on single-constructor types only (what the real checker allows) -/
  | field (i k tys t) : A[i]? = some [tys] → tys[k]? = some t → UnTy A (.field k) (.adt i) t
  | tupIdx (ts k t) : ts[k]? = some t → UnTy A (.tupIdx k) (.tup ts) t
  /-- up-cast to `Data`: every first-order value has an encoding -/
  | toData (t) : UnTy A .toData t .data
  /-- down-cast `expect _: t = d`: fails (`abort`) or yields a value of type `t` -/
  | fromData (t) : UnTy A (.fromData t) .data t

inductive BinTy : BinOp → MTy → MTy → MTy → Prop
  | add : BinTy .add .int .int .int
  | sub : BinTy .sub .int .int .int
  | mul : BinTy .mul .int .int .int
  | div : BinTy .div .int .int .int
  | mod : BinTy .mod .int .int .int
  | lt : BinTy .lt .int .int .bool
  | le : BinTy .le .int .int .bool
  | gt : BinTy .gt .int .int .bool
  | ge : BinTy .ge .int .int .bool
  | eq (a) : BinTy .eq a a .bool
  | ne (a) : BinTy .ne a a .bool
  | cons (a) : BinTy .cons a (.list a) (.list a)
  | append : BinTy .append .bytes .bytes .bytes
  | index : BinTy .index .bytes .int .int

mutual
  inductive HasTy (A : Adts) (S : Sig) : Ctx → Expr → MTy → Prop
    | lit_int (Γ n) : HasTy A S Γ (.lit (.int n)) .int
    | lit_bool (Γ b) : HasTy A S Γ (.lit (.bool b)) .bool
    | lit_bytes (Γ b) : HasTy A S Γ (.lit (.bytes b)) .bytes
    | lit_unit (Γ) : HasTy A S Γ (.lit .unit) .void
    | lit_str (Γ s) : HasTy A S Γ (.lit (.str s)) .str
    | var (Γ x t) : lookupTy Γ x = some t → HasTy A S Γ (.var x) t
    | let_used (Γ x a b ta t) : HasTy A S Γ a ta → HasTy A S ((x, ta) :: Γ) b t → HasTy A S Γ (.letE x true a b) t
    | let_unused (Γ x a b t) : HasTy A S Γ b t → HasTy A S Γ (.letE x false a b) t
    | ite (Γ c a b t) : HasTy A S Γ c .bool → HasTy A S Γ a t → HasTy A S Γ b t → HasTy A S Γ (.ite c a b) t
    | and (Γ a b) : HasTy A S Γ a .bool → HasTy A S Γ b .bool → HasTy A S Γ (.and a b) .bool
    | or (Γ a b) : HasTy A S Γ a .bool → HasTy A S Γ b .bool → HasTy A S Γ (.or a b) .bool
    | un (Γ op a ta t) : HasTy A S Γ a ta → UnTy A op ta t → HasTy A S Γ (.un op a) t
    | bin (Γ op a b ta tb t) : HasTy A S Γ a ta → HasTy A S Γ b tb → BinTy op ta tb t →
        HasTy A S Γ (.bin op a b) t
    | tuple (Γ es ts) : HasTys A S Γ es ts → HasTy A S Γ (.tuple es) (.tup ts)
    | list (Γ es t) : HasTys A S Γ es (List.replicate es.length t) → HasTy A S Γ (.list es) (.list t)
    | con (Γ i tag es ctors tys) : A[i]? = some ctors → ctors[tag]? = some tys → HasTys A S Γ es tys →
        HasTy A S Γ (.con tag es) (.adt i)
    | call (Γ f es argtys r) : S[f]? = some (argtys, r) → HasTys A S Γ es argtys → HasTy A S Γ (.call f es) r
    | fail (Γ b t) : HasTy A S Γ (.fail b) t
    | expect (Γ p a b ta Γp t) : HasTy A S Γ a ta → patCtx A p ta = some Γp → HasTy A S (Γp ++ Γ) b t →
        HasTy A S Γ (.expect p a b) t
    /-- `when`: every clause is typed under its pattern's bindings; exhaustiveness — what the real
    checker's usefulness algorithm decides (C07) — is a premise over the values of the type -/
    | when (Γ s cs ts t) : HasTy A S Γ s ts →
        (∀ c ∈ cs, (patCtx A c.1 ts).isSome = true) →
        (∀ c ∈ cs, ∀ Γp, patCtx A c.1 ts = some Γp → HasTy A S (Γp ++ Γ) c.2 t) →
        (∀ v, valTy A v ts = true → firstMatch v cs ≠ none) →
        HasTy A S Γ (.when s cs) t
    | trace (Γ l args b tl ts t) : HasTy A S Γ l tl → HasTys A S Γ args ts → HasTy A S Γ b t →
        HasTy A S Γ (.trace l args b) t
    | traceIfFalse (Γ a) : HasTy A S Γ a .bool → HasTy A S Γ (.traceIfFalse a) .bool
  inductive HasTys (A : Adts) (S : Sig) : Ctx → List Expr → List MTy → Prop
    | nil (Γ) : HasTys A S Γ [] []
    | cons (Γ e es t ts) : HasTy A S Γ e t → HasTys A S Γ es ts → HasTys A S Γ (e :: es) (t :: ts)
end

def ProgTy (S : Sig) (P : Program) : Prop :=
  ∀ (f : Nat) (argtys : List MTy) (r : MTy), S[f]? = some (argtys, r) →
    ∃ (xs : List Nat) (body : Expr), P.fns[f]? = some (xs, body) ∧ xs.length = argtys.length ∧ HasTy P.adts S (xs.zip argtys) body r

-- What `sound_step` shows of a run: it is not `stuck`; a value it returns satisfies `Q`; `abort` and
-- `outOfFuel` are acceptable.  `Ok`/`OkL` take for `Q` "has type `t`" / "have types `ts`".
def Good {α} (o : Outcome α) (Q : α → Prop) : Prop :=
  match o with
  | .val a => Q a
  | .stuck => False
  | _ => True

def Ok (A : Adts) (o : Outcome Val) (t : MTy) : Prop := Good o (fun v => valTy A v t = true)

def OkL (A : Adts) (o : Outcome (List Val)) (ts : List MTy) : Prop := Good o (fun vs => zipTy A vs ts = true)

variable {A : Adts}

theorem valTy_int {v} (h : valTy A v .int = true) : ∃ n, v = .int n := by
  cases v with
  | int n => exact ⟨n, rfl⟩
  | _ => exact (Bool.false_ne_true h).elim
theorem valTy_bool {v} (h : valTy A v .bool = true) : ∃ b, v = .bool b := by
  cases v with
  | bool b => exact ⟨b, rfl⟩
  | _ => exact (Bool.false_ne_true h).elim
theorem valTy_bytes {v} (h : valTy A v .bytes = true) : ∃ b, v = .bytes b := by
  cases v with
  | bytes b => exact ⟨b, rfl⟩
  | _ => exact (Bool.false_ne_true h).elim
theorem valTy_list {v t} (h : valTy A v (.list t) = true) : ∃ vs, v = .list vs ∧ allTy A vs t = true := by
  cases v with
  | list vs => exact ⟨vs, rfl, h⟩
  | _ => exact (Bool.false_ne_true h).elim
theorem valTy_tup {v ts} (h : valTy A v (.tup ts) = true) : ∃ vs, v = .tuple vs ∧ zipTy A vs ts = true := by
  cases v with
  | tuple vs => exact ⟨vs, rfl, h⟩
  | _ => exact (Bool.false_ne_true h).elim

theorem zipTy_replicate : ∀ (vs : List Val) (t : MTy) (n : Nat),
    zipTy A vs (List.replicate n t) = true → allTy A vs t = true
  | [], _, _, _ => rfl
  | _ :: _, _, 0, h => (Bool.false_ne_true h).elim
  | _ :: vs, t, n + 1, h =>
    have ⟨hv, hvs⟩ := Bool.and_eq_true_iff.mp h
    Bool.and_eq_true_iff.mpr ⟨hv, zipTy_replicate vs t n hvs⟩

theorem zipTy_length : ∀ (vs : List Val) (ts : List MTy), zipTy A vs ts = true → vs.length = ts.length
  | [], [], _ => rfl
  | [], _ :: _, h => (Bool.false_ne_true h).elim
  | _ :: _, [], h => (Bool.false_ne_true h).elim
  | _ :: vs, _ :: ts, h => congrArg (· + 1) (zipTy_length vs ts (Bool.and_eq_true_iff.mp h).2)

theorem valTy_con_adt {i tag vs ctors tys} (h1 : A[i]? = some ctors) (h2 : ctors[tag]? = some tys) :
    valTy A (.con tag vs) (.adt i) = zipTy A vs tys := by
  simp only [valTy, h1, h2]

theorem valTy_adt {v i} (h : valTy A v (.adt i) = true) :
    ∃ tag vs ctors tys, v = .con tag vs ∧ A[i]? = some ctors ∧ ctors[tag]? = some tys ∧
      zipTy A vs tys = true := by
  cases v with
  | con tag vs =>
    cases h1 : A[i]? with
    | none => simp [valTy, h1] at h
    | some ctors =>
      cases h2 : ctors[tag]? with
      | none => simp [valTy, h1, h2] at h
      | some tys => exact ⟨tag, vs, ctors, tys, rfl, rfl, h2, (valTy_con_adt h1 h2).symm.trans h⟩
  | _ => exact (Bool.false_ne_true h).elim

theorem zipTy_get : ∀ (vs : List Val) (ts : List MTy) (k : Nat) (t : MTy), zipTy A vs ts = true →
    ts[k]? = some t → ∃ v, vs[k]? = some v ∧ valTy A v t = true
  | [], [], _, _, _, h => nomatch h
  | [], _ :: _, _, _, h, _ => (Bool.false_ne_true h).elim
  | _ :: _, [], _, _, h, _ => (Bool.false_ne_true h).elim
  | v :: _, _ :: _, 0, _, h, rfl => ⟨v, rfl, (Bool.and_eq_true_iff.mp h).1⟩
  | _ :: vs, _ :: ts, k + 1, t, h, hk => zipTy_get vs ts k t (Bool.and_eq_true_iff.mp h).2 hk

theorem valTy_con {tag vs t} (h : valTy A (.con tag vs) t = true) : ∃ ts, zipTy A vs ts = true := by
  cases t with
  | opt te =>
    simp only [valTy, Bool.or_eq_true, Bool.and_eq_true, List.isEmpty_iff] at h
    rcases h with ⟨_, h⟩ | ⟨_, rfl⟩
    · exact ⟨_, h⟩
    · exact ⟨[], rfl⟩
  | adt i =>
    obtain ⟨_, _, _, tys, hv, _, _, hz⟩ := valTy_adt h
    cases hv
    exact ⟨tys, hz⟩
  | _ => exact (Bool.false_ne_true h).elim

mutual
  /-- typed, hence closure-free -/
  theorem toData_total : ∀ (v : Val) (t : MTy), valTy A v t = true → ∃ d, toData v = some d
    | .int _, _, _ | .bool _, _, _ | .bytes _, _, _ | .unit, _, _ | .str _, _, _ | .data _, _, _ => ⟨_, rfl⟩
    | .clo _ _, _, h | .fn _, _, h => (Bool.false_ne_true h).elim
    | .list vs, t, h => by
      cases t with
      | list te =>
        obtain ⟨ds, hds⟩ := toDataList_total_all vs te h
        exact ⟨.list ds, congrArg (Option.map Data.list) hds⟩
      | _ => exact (Bool.false_ne_true h).elim
    | .tuple vs, t, h => by
      cases t with
      | tup ts =>
        obtain ⟨ds, hds⟩ := toDataList_total_zip vs ts h
        exact ⟨.list ds, congrArg (Option.map Data.list) hds⟩
      | _ => exact (Bool.false_ne_true h).elim
    | .con tag vs, t, h => by
      obtain ⟨ts, hz⟩ := valTy_con h
      obtain ⟨ds, hds⟩ := toDataList_total_zip vs ts hz
      exact ⟨.constr tag ds, congrArg (Option.map (Data.constr tag)) hds⟩
  theorem toDataList_total_all : ∀ (vs : List Val) (t : MTy), allTy A vs t = true →
      ∃ ds, toDataList vs = some ds
    | [], _, _ => ⟨[], rfl⟩
    | v :: vs, t, h => by
      obtain ⟨hv, hvs⟩ := Bool.and_eq_true_iff.mp h
      obtain ⟨d, hd⟩ := toData_total v t hv
      obtain ⟨ds, hds⟩ := toDataList_total_all vs t hvs
      exact ⟨d :: ds, by simp only [toDataList, hd, hds]⟩
  theorem toDataList_total_zip : ∀ (vs : List Val) (ts : List MTy), zipTy A vs ts = true →
      ∃ ds, toDataList vs = some ds
    | [], _, _ => ⟨[], rfl⟩
    | _ :: _, [], h => (Bool.false_ne_true h).elim
    | v :: vs, t :: ts, h => by
      obtain ⟨hv, hvs⟩ := Bool.and_eq_true_iff.mp h
      obtain ⟨d, hd⟩ := toData_total v t hv
      obtain ⟨ds, hds⟩ := toDataList_total_zip vs ts hvs
      exact ⟨d :: ds, by simp only [toDataList, hd, hds]⟩
end

/-- By induction along the definition of `fromData`: in each clause that can succeed `h` names the
value built.  The cases are numbered along the clauses of `fromData` (1–18, one per branch of an
`if` or inner `match`), of `fromDataZip` (19–22) and of `fromDataAll` (23–25). -/
theorem fromData_ty_all :
    (∀ t d, ∀ v, fromData A t d = some v → valTy A v t = true) ∧
    (∀ ts ds, ∀ vs, fromDataZip A ts ds = some vs → zipTy A vs ts = true) ∧
    (∀ t ds, ∀ vs, fromDataAll A t ds = some vs → allTy A vs t = true) := by
  apply fromData.mutual_induct A <;> intros <;> rename_i v h <;>
    simp only [fromData, fromDataAll, fromDataZip, *, Option.map_eq_some_iff, Option.some.injEq, reduceCtorEq,
      ↓reduceIte] at h
  -- `Int`, `ByteArray`, `Data`, `False`, `True`, `Void`, `None`, the empty lists
  case case1 | case2 | case3 | case4 | case5 | case7 | case12 | case19 | case23 => subst h; rfl
  -- a list, a tuple
  case case9 | case10 =>
    rename_i ih
    obtain ⟨vs, hvs, rfl⟩ := h
    exact ih vs hvs
  -- `Some x`
  case case11 =>
    rename_i ih
    obtain ⟨vs, hvs, rfl⟩ := h
    simp [valTy, ih vs hvs]
  -- a constructor of a user type (`h1`, `h2`: the table lookups that succeeded)
  case case15 =>
    rename_i ctors h1 tys h2 ih
    obtain ⟨vs, hvs, rfl⟩ := h
    exact (valTy_con_adt h1 h2).trans (ih vs hvs)
  -- `fromDataZip`, `fromDataAll` on a non-empty list, head and tail both converted
  case case20 | case24 =>
    rename_i w ws hws hw ihw ihws
    subst h
    exact Bool.and_eq_true_iff.mpr ⟨ihw w hw, ihws ws hws⟩

theorem fromData_ty : ∀ (d : Data) (t : MTy) (v : Val), fromData A t d = some v → valTy A v t = true :=
  fun d t => fromData_ty_all.1 t d

theorem fromDataAll_ty : ∀ (ds : List Data) (t : MTy) (vs : List Val), fromDataAll A t ds = some vs →
    allTy A vs t = true :=
  fun ds t => fromData_ty_all.2.2 t ds

theorem fromDataZip_ty : ∀ (ds : List Data) (ts : List MTy) (vs : List Val), fromDataZip A ts ds = some vs →
    zipTy A vs ts = true :=
  fun ds ts => fromData_ty_all.2.1 ts ds

theorem envOk_lookup : ∀ (Γ : Ctx) (env : Env) (x : Nat) (t : MTy), envOk A Γ env → lookupTy Γ x = some t →
    ∃ v, lookup env x = some v ∧ valTy A v t = true
  | [], [], _, _, _, h => nomatch h
  | [], _ :: _, _, _, h, _ => h.elim
  | _ :: _, [], _, _, h, _ => h.elim
  | (y, _) :: Γ, (_, v) :: env, x, t, ⟨rfl, hv, hrest⟩, hl => by
    unfold lookupTy at hl
    unfold lookup
    by_cases hx : x = y
    · rw [if_pos hx] at hl ⊢
      cases hl
      exact ⟨v, rfl, hv⟩
    · rw [if_neg hx] at hl ⊢
      exact envOk_lookup Γ env x t hrest hl

theorem envOk_append : ∀ (Γ₁ : Ctx) (e₁ : Env) (Γ₂ : Ctx) (e₂ : Env), envOk A Γ₁ e₁ → envOk A Γ₂ e₂ →
    envOk A (Γ₁ ++ Γ₂) (e₁ ++ e₂)
  | [], [], _, _, _, h2 => h2
  | [], _ :: _, _, _, h, _ => h.elim
  | _ :: _, [], _, _, h, _ => h.elim
  | (_, _) :: Γ₁, (_, _) :: e₁, Γ₂, e₂, h1, h2 => ⟨h1.1, h1.2.1, envOk_append Γ₁ e₁ Γ₂ e₂ h1.2.2 h2⟩

theorem bindParams_ok : ∀ (xs : List Nat) (vs : List Val) (ts : List MTy), xs.length = ts.length →
    zipTy A vs ts = true → ∃ env, bindParams xs vs = some env ∧ envOk A (xs.zip ts) env
  | [], [], [], _, _ => ⟨[], rfl, trivial⟩
  | [], _ :: _, [], _, h => (Bool.false_ne_true h).elim
  | [], _, _ :: _, h, _ => nomatch h
  | _ :: _, _, [], h, _ => nomatch h
  | _ :: _, [], _ :: _, _, h => (Bool.false_ne_true h).elim
  | x :: xs, v :: vs, t :: ts, hl, h => by
    obtain ⟨hv, hvs⟩ := Bool.and_eq_true_iff.mp h
    obtain ⟨env, he, hok⟩ := bindParams_ok xs vs ts (Nat.succ.inj hl) hvs
    exact ⟨(x, v) :: env, by simp [bindParams, he], rfl, hv, hok⟩

/-- the shape `matchPat` has on `[h, ..tl]` and `matchPats` on a non-empty list: if the combined match
succeeds, both parts did, and the bindings are theirs appended -/
theorem matchBoth_eq_some {o₁ o₂ : Option Env} {bs : Env}
    (h : (match o₁ with
      | some b1 =>
        match o₂ with
        | some b2 => some (b2 ++ b1)
        | none => none
      | none => none) = some bs) : ∃ b1 b2, o₁ = some b1 ∧ o₂ = some b2 ∧ bs = b2 ++ b1 := by
  cases o₁ with
  | none => cases h
  | some b1 =>
    cases o₂ with
    | none => cases h
    | some b2 =>
      cases h
      exact ⟨b1, b2, rfl, rfl, rfl⟩

/-- By induction along the definition of `patCtx`, which fixes the shape of the type; `valTy` then
gives the shape of the value.  The clauses where `patCtx` is `none` go by `hp`.  The cases are numbered
along the clauses of `patCtx` (1–14, one per branch of an inner `match`) and of `patsCtx` (15–19). -/
theorem matchPat_ok_all :
    (∀ p t, ∀ v Γp bs, patCtx A p t = some Γp → valTy A v t = true → matchPat p v = some bs → envOk A Γp bs) ∧
    (∀ ps ts, ∀ vs Γp bs, patsCtx A ps ts = some Γp → zipTy A vs ts = true → matchPats ps vs = some bs →
      envOk A Γp bs) := by
  apply patCtx.mutual_induct A <;> intros <;> rename_i v Γp bs hp hv hm <;>
    simp only [patCtx, patsCtx, *, Option.some.injEq, reduceCtorEq] at hp
  -- wildcard, variable, literals
  case case1 => cases hp; cases hm; trivial
  case case2 => cases hp; cases hm; exact ⟨rfl, hv, trivial⟩
  case case3 | case4 | case5 =>
    cases v <;> try exact (Bool.false_ne_true hv).elim
    simp only [matchPat] at hm
    split at hm <;> cases hm
    cases hp
    trivial
  -- tuple; constructor of a user type (`h1`, `h2`: the table lookups that succeeded)
  case case6 =>
    rename_i ih
    obtain ⟨vs, rfl, hvs⟩ := valTy_tup hv
    exact ih vs Γp bs hp hvs hm
  case case7 =>
    rename_i ctors h1 tys h2 ih
    obtain ⟨tag', vs, ctors, tys, rfl, h1', h2', hz⟩ := valTy_adt hv
    simp only [matchPat] at hm
    split at hm
    · subst tag'
      cases h1.symm.trans h1'
      cases h2.symm.trans h2'
      exact ih vs Γp bs hp hz hm
    · cases hm
  -- `[]`; `[h, ..tl]` with both sub-patterns typed (`hc1`, `hc2`)
  case case10 =>
    obtain ⟨vs, rfl, _⟩ := valTy_list hv
    cases vs <;> simp only [matchPat, Option.some.injEq, reduceCtorEq] at hm
    cases hp; cases hm; trivial
  case case11 =>
    rename_i c1 hc1 c2 hc2 ihh iht
    obtain ⟨vs, rfl, hvs⟩ := valTy_list hv
    cases vs with
    | nil => cases hm
    | cons w ws =>
      obtain ⟨hw, hws⟩ := Bool.and_eq_true_iff.mp hvs
      obtain ⟨b1, b2, m1, m2, rfl⟩ := matchBoth_eq_some hm
      cases hp
      exact envOk_append _ _ _ _ (iht (.list ws) c2 b2 hc2 hws m2) (ihh w c1 b1 hc1 hw m1)
  -- pattern lists: empty; non-empty with head and tail typed (`hc1`, `hc2`)
  case case15 =>
    cases v <;> simp only [matchPats, reduceCtorEq] at hm
    cases hp; cases hm; trivial
  case case16 =>
    rename_i c1 hc1 c2 hc2 ihp ihps
    cases v with
    | nil => exact (Bool.false_ne_true hv).elim
    | cons w ws =>
      obtain ⟨hw, hws⟩ := Bool.and_eq_true_iff.mp hv
      obtain ⟨b1, b2, m1, m2, rfl⟩ := matchBoth_eq_some hm
      cases hp
      exact envOk_append _ _ _ _ (ihps ws c2 b2 hc2 hws m2) (ihp w c1 b1 hc1 hw m1)

theorem matchPat_ok : ∀ (p : Pat) (t : MTy) (v : Val) (Γp : Ctx) (bs : Env),
    patCtx A p t = some Γp → valTy A v t = true → matchPat p v = some bs → envOk A Γp bs :=
  fun p t => matchPat_ok_all.1 p t

theorem matchPats_ok : ∀ (ps : List Pat) (ts : List MTy) (vs : List Val) (Γp : Ctx) (bs : Env),
    patsCtx A ps ts = some Γp → zipTy A vs ts = true → matchPats ps vs = some bs → envOk A Γp bs :=
  fun ps ts => matchPat_ok_all.2 ps ts

theorem unOp_ok (P : Program) (op : UnOp) (v : Val) (ta t : MTy) (ht : UnTy P.adts op ta t)
    (hv : valTy P.adts v ta = true) : Ok P.adts (unOp P op v) t := by
  cases ht with
  | neg => obtain ⟨n, rfl⟩ := valTy_int hv; exact rfl
  | not => obtain ⟨n, rfl⟩ := valTy_bool hv; exact rfl
  | len => obtain ⟨n, rfl⟩ := valTy_bytes hv; exact rfl
  | field i k tys t hA hk =>
    obtain ⟨tag, vs, ctors, tys', rfl, h1, h2, hz⟩ := valTy_adt hv
    rw [hA] at h1
    cases h1
    have htag : tys' = tys := by
      cases tag with
      | zero => simpa using h2.symm
      | succ n => simp at h2
    subst htag
    obtain ⟨w, hw, hwt⟩ := zipTy_get vs tys' k t hz hk
    simp only [unOp, hw]
    exact hwt
  | tupIdx ts k t hk =>
    obtain ⟨vs, rfl, hz⟩ := valTy_tup hv
    obtain ⟨w, hw, hwt⟩ := zipTy_get vs ts k t hz hk
    simp only [unOp, hw]
    exact hwt
  | toData t0 =>
    obtain ⟨d, hd⟩ := toData_total v _ hv
    simp only [unOp, hd]
    exact rfl
  | fromData t0 =>
    cases v with
    | data d =>
      simp only [unOp]
      cases hf : fromData P.adts t d with
      | none => trivial
      | some w => exact fromData_ty d t w hf
    | _ => exact (Bool.false_ne_true hv).elim

theorem binOp_ok (op : BinOp) (x y : Val) (ta tb t : MTy) (ht : BinTy op ta tb t)
    (hx : valTy A x ta = true) (hy : valTy A y tb = true) : Ok A (binOp op x y) t := by
  cases ht
  case eq | ne => exact rfl
  case cons =>
    obtain ⟨vs, rfl, hvs⟩ := valTy_list hy
    exact Bool.and_eq_true_iff.mpr ⟨hx, hvs⟩
  case append =>
    obtain ⟨a, rfl⟩ := valTy_bytes hx
    obtain ⟨b, rfl⟩ := valTy_bytes hy
    exact rfl
  case index =>
    obtain ⟨a, rfl⟩ := valTy_bytes hx
    obtain ⟨i, rfl⟩ := valTy_int hy
    simp only [binOp]
    split
    · split <;> trivial
    · trivial
  -- arithmetic and comparisons, on two integers: a value of the result type, or `abort` on a zero divisor
  all_goals
    obtain ⟨a, rfl⟩ := valTy_int hx
    obtain ⟨b, rfl⟩ := valTy_int hy
  case div | mod =>
    simp only [binOp]
    split <;> trivial
  all_goals exact rfl

theorem Good_bind {α β} {x : M α} {f : α → M β} {Q : α → Prop} {R : β → Prop}
    (hx : Good x.1 Q) (hf : ∀ a, Q a → Good (f a).1 R) : Good (bind x f).1 R := by
  obtain ⟨o, l⟩ := x
  cases o with
  | val a => exact hf a hx
  | abort => trivial
  | outOfFuel => trivial
  | stuck => exact hx

theorem Good_bind_bool {β} {x : M Val} {f : Val → M β} {R : β → Prop}
    (hx : Ok A x.1 .bool) (hf : ∀ b, Good (f (.bool b)).1 R) : Good (bind x f).1 R :=
  Good_bind hx fun v hv => by
    obtain ⟨b, rfl⟩ := valTy_bool hv
    exact hf b

theorem Ok_lift_ret (v : Val) (t : MTy) (h : valTy A v t = true) : Ok A (ret v : M Val).1 t := h

/-- **Type soundness**, fuel-indexed, for expressions and expression lists -/
theorem sound_step (S : Sig) (P : Program) (m : Mode) (hP : ProgTy S P) :
    ∀ n, (∀ Γ env e t, HasTy P.adts S Γ e t → envOk P.adts Γ env → Ok P.adts (eval P m n env e).1 t) ∧
         (∀ Γ env es ts, HasTys P.adts S Γ es ts → envOk P.adts Γ env → OkL P.adts (evalList P m n env es).1 ts) := by
  intro n
  induction n with
  | zero => exact ⟨fun _ _ _ _ _ _ => trivial, fun _ _ _ _ _ _ => trivial⟩
  | succ n ih =>
    have ihE {Γ env e t} := ih.1 Γ env e t
    have ihL {Γ env es ts} := ih.2 Γ env es ts
    refine ⟨fun Γ env e t h henv => ?_, fun Γ env es ts h henv => ?_⟩
    -- `Ok` / `OkL` are `Good`, and `eval P m (n + 1) env e` unfolds definitionally for each former:
    -- `Good_bind` follows the evaluator's binds, the heads by the induction hypothesis
    · cases h with
      | lit_int | lit_bool | lit_bytes | lit_unit | lit_str => exact rfl
      | var _ x _ hl =>
        obtain ⟨v, hv, hty⟩ := envOk_lookup Γ env x t henv hl
        show Ok P.adts (match lookup env x with | some v => ret v | none => stuckM).1 t
        rw [hv]
        exact hty
      | let_used _ x a b ta _ ha hb =>
        exact Good_bind (ihE ha henv) fun v hv => ihE hb ⟨rfl, hv, henv⟩
      | let_unused _ x a b _ hb => exact ihE hb henv
      | ite _ c a b _ hc ha hb =>
        exact Good_bind_bool (ihE hc henv) fun
          | true => ihE ha henv
          | false => ihE hb henv
      | and _ a b ha hb =>
        exact Good_bind_bool (ihE ha henv) fun
          | true => ihE hb henv
          | false => rfl
      | or _ a b ha hb =>
        exact Good_bind_bool (ihE ha henv) fun
          | true => rfl
          | false => ihE hb henv
      | un _ op a ta _ ha hop =>
        exact Good_bind (ihE ha henv) fun v hv => unOp_ok P op v ta t hop hv
      | bin _ op a b ta tb _ ha hb hop =>
        exact Good_bind (ihE ha henv) fun x hx => Good_bind (ihE hb henv) fun y hy =>
          binOp_ok op x y ta tb t hop hx hy
      | tuple _ es ts hes => exact Good_bind (ihL hes henv) fun vs hvs => hvs
      | list _ es te hes =>
        exact Good_bind (ihL hes henv) fun vs hvs => zipTy_replicate vs te _ hvs
      | con _ i tag es ctors tys hA htag hes =>
        exact Good_bind (ihL hes henv) fun vs hvs => (valTy_con_adt hA htag).trans hvs
      | call _ f es argtys _ hsig hes =>
        refine Good_bind (ihL hes henv) fun vs hvs => ?_
        obtain ⟨xs, body, hf, hlen, hbody⟩ := hP f argtys t hsig
        obtain ⟨env', hbp, hok⟩ := bindParams_ok xs vs argtys hlen hvs
        simp only [hf, hbp]
        exact ihE hbody hok
      | fail _ b _ => trivial
      | expect _ p a b ta Γp _ ha hp hb =>
        refine Good_bind (ihE ha henv) fun v hv => ?_
        cases hm : matchPat p v with
        | none => trivial
        | some bs => exact ihE hb (envOk_append _ _ _ _ (matchPat_ok p ta v Γp bs hp hv hm) henv)
      | when _ s cs ts _ hs hpat hcl hex =>
        refine Good_bind (ihE hs henv) fun v hv => ?_
        cases hfm : firstMatch v cs with
        | none => exact absurd hfm (hex v hv)
        | some r =>
          obtain ⟨bs, b⟩ := r
          obtain ⟨c, hc, hm, rfl⟩ := firstMatch_mem v cs bs b hfm
          obtain ⟨Γp, hpc⟩ := Option.isSome_iff_exists.mp (hpat c hc)
          exact ihE (hcl c hc Γp hpc) (envOk_append _ _ _ _ (matchPat_ok c.1 ts v Γp bs hpc hv hm) henv)
      | trace _ l args b tl ts _ hl hargs hb =>
        cases m with
        | silent => exact ihE hb henv
        | compact =>
          exact Good_bind (ihE hl henv) fun _ _ =>
            Good_bind (Q := fun _ => True) trivial fun _ _ => ihE hb henv
        | verbose =>
          exact Good_bind (ihE hl henv) fun _ _ => Good_bind (ihL hargs henv) fun _ _ =>
            Good_bind (Q := fun _ => True) trivial fun _ _ => ihE hb henv
      | traceIfFalse _ a ha =>
        refine Good_bind_bool (ihE ha henv) fun bb => ?_
        cases m <;> cases bb <;> exact rfl
    · cases h with
      | nil => exact rfl
      | cons _ e es t ts he hes =>
        exact Good_bind (ihE he henv) fun v hv => Good_bind (ihL hes henv) fun vs hvs =>
          Bool.and_eq_true_iff.mpr ⟨hv, hvs⟩

end AikenVerif.Mini
