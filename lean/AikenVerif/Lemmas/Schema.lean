import AikenVerif.Model.Schema
/-! Table lookup, and validators over a table whose entries refer to each other by key: resolving
a list of references yields schemas related to the keys by `Rel2 (Resolves tbl)`. -/
namespace AikenVerif.Blueprint

theorem Table.get_cons (k' k : ATy) (s : Schema) (rest : Table) :
    Table.get ((k', s) :: rest) k = if k' = k then some s else Table.get rest k := rfl

theorem Table.mem_of_get {tbl : Table} {k : ATy} {s : Schema} (h : tbl.get k = some s) :
    (k, s) ∈ tbl := by
  induction tbl with
  | nil => cases h
  | cons e rest ih =>
    obtain ⟨k', s'⟩ := e
    rw [Table.get_cons] at h
    split at h
    · cases h
      subst k'
      exact List.mem_cons_self
    · exact List.mem_cons_of_mem _ (ih h)

theorem Table.exists_get_of_mem {tbl : Table} {k : ATy} {s : Schema} (h : (k, s) ∈ tbl) :
    ∃ s', tbl.get k = some s' := by
  induction tbl with
  | nil => cases h
  | cons e rest ih =>
    obtain ⟨k', s'⟩ := e
    rw [Table.get_cons]
    split
    · exact ⟨s', rfl⟩
    · rcases List.mem_cons.mp h with h | h
      · cases h; contradiction
      · exact ih h

theorem allOk_congr {α : Type} {f g : α → Outcome} (xs : List α) (h : ∀ x, f x = g x) :
    allOk f xs = allOk g xs := by
  induction xs with
  | nil => rfl
  | cons x xs ih => simp only [allOk, h x, ih]

/-- pointwise relation between two lists (core has no `Forall₂` lemmas we could rely on); used as
`Rel2 (Resolves tbl) ts ss`: the keys `ts` resolve, one by one, to the schemas `ss` -/
inductive Rel2 {α β : Type} (R : α → β → Prop) : List α → List β → Prop where
  | nil : Rel2 R [] []
  | cons {a b as bs} : R a b → Rel2 R as bs → Rel2 R (a :: as) (b :: bs)

theorem Rel2.length_eq {α β : Type} {R : α → β → Prop} {as : List α} {bs : List β}
    (h : Rel2 R as bs) : as.length = bs.length := by
  induction h with
  | nil => rfl
  | cons _ _ ih => simp [ih]

theorem zipOk_rel {σ τ α : Type} {R : τ → σ → Prop} {f : σ → α → Outcome} {g : τ → α → Outcome}
    {ts : List τ} {ss : List σ} (h : Rel2 R ts ss)
    (hfg : ∀ t s x, R t s → f s x = g t x) (xs : List α) :
    zipOk f ss xs = zipOk g ts xs := by
  induction h generalizing xs with
  | nil => cases xs <;> rfl
  | cons hr _ ih =>
    cases xs with
    | nil => rfl
    | cons x xs => simp only [zipOk, hfg _ _ x hr, ih xs]

theorem ctorLoop_rel {σ τ : Type} {R : τ → σ → Prop} {f : σ → Data → Outcome}
    {g : τ → Data → Outcome} (m : Outcome) (tag : Nat) (fields : List Data)
    {cs : List (Nat × List τ)} {rs : List (Nat × List σ)}
    (h : Rel2 (fun c r => c.1 = r.1 ∧ Rel2 R c.2 r.2) cs rs)
    (hfg : ∀ t s x, R t s → f s x = g t x) :
    ctorLoop m f tag fields rs = ctorLoop m g tag fields cs := by
  induction h with
  | nil => rfl
  | @cons c r cs rs hr _ ih =>
    obtain ⟨i, ts⟩ := c
    obtain ⟨j, ss⟩ := r
    obtain ⟨hij, hts⟩ := hr
    simp only at hij hts
    subst hij
    simp only [ctorLoop]
    rw [ih, hts.length_eq, zipOk_rel hts hfg]

theorem refs_cons (t : ATy) (ts : List ATy) : refs (t :: ts) = .ref t :: refs ts := rfl

/-- the table defines key `k` as the data schema `ds`: the relation between a type and its schema
that every later module works through -/
def Resolves (tbl : Table) (k : ATy) (ds : DSchema) : Prop := tbl.get k = some (.data ds)

theorem resolveD_ref {tbl : Table} {k : ATy} {ds : DSchema} (h : Resolves tbl k ds) :
    resolveD tbl (.ref k) = some ds := by
  unfold Resolves at h
  simp [resolveD, h]

theorem resolveAll_refs {tbl : Table} (ts : List ATy) (h : ∀ k ∈ ts, ∃ ds, Resolves tbl k ds) :
    ∃ ss, resolveAll tbl (refs ts) = some ss ∧ Rel2 (Resolves tbl) ts ss := by
  induction ts with
  | nil => exact ⟨[], rfl, .nil⟩
  | cons t ts ih =>
    obtain ⟨ds, hds⟩ := h t List.mem_cons_self
    obtain ⟨ss, hss, hrel⟩ := ih (fun k hk => h k (List.mem_cons_of_mem _ hk))
    refine ⟨ds :: ss, ?_, .cons hds hrel⟩
    simp only [refs_cons, resolveAll, resolveD_ref hds, hss]

theorem resolveCtors_refs {tbl : Table} (cs : List (Nat × List ATy))
    (h : ∀ c ∈ cs, ∀ k ∈ c.2, ∃ ds, Resolves tbl k ds) :
    ∃ rs, resolveCtors tbl (cs.map (fun c => (c.1, refs c.2))) = some rs ∧
      Rel2 (fun c r => c.1 = r.1 ∧ Rel2 (Resolves tbl) c.2 r.2) cs rs := by
  induction cs with
  | nil => exact ⟨[], rfl, .nil⟩
  | cons c cs ih =>
    obtain ⟨i, fs⟩ := c
    obtain ⟨ss, hss, hrel⟩ := resolveAll_refs fs (h (i, fs) List.mem_cons_self)
    obtain ⟨rs, hrs, hrels⟩ := ih (fun c hc => h c (List.mem_cons_of_mem _ hc))
    refine ⟨(i, ss) :: rs, ?_, .cons ⟨rfl, hrel⟩ hrels⟩
    simp only [List.map_cons, resolveCtors, hss, hrs]

/-- every definition is the published schema of its key, and every reference it makes is
itself defined -/
def Faithful (decls : Decls) (tbl : Table) : Prop :=
  ∀ t s, tbl.get t = some s →
    ∃ ds, pubSchema decls t = some ds ∧ s = .data ds ∧
      ∀ k ∈ (Schema.data ds).refs, ∃ s', tbl.get k = some s'

theorem Faithful.resolves {decls : Decls} {tbl : Table} (hF : Faithful decls tbl) {k : ATy} {s : Schema}
    (h : tbl.get k = some s) : ∃ ds, Resolves tbl k ds := by
  obtain ⟨ds, _, hs, _⟩ := hF k s h
  exact ⟨ds, by unfold Resolves; rw [h, hs]⟩

theorem flatMap_declRefs_refs (fs : List ATy) :
    (refs fs).flatMap (declRefs (α := DSchema)) = fs := by
  induction fs with
  | nil => rfl
  | cons t ts ih => rw [refs_cons, List.flatMap_cons, ih]; rfl

@[simp] theorem lenOutcome_true : lenOutcome true = .mismatch := rfl
@[simp] theorem lenOutcome_false : lenOutcome false = .panic := rfl

end AikenVerif.Blueprint
