import AikenVerif.Model.Prec
/-!
C13, part 1 of 3 (`PrecParse`, `PrecRound` follow), the printer side: parenthesisation expressed through tower heights, and the
operand chains of one binary level.
-/
namespace AikenVerif.Prec
open AikenVerif.Gen.Prec

/-! ## table facts (generated tables; each closed by case analysis) -/

/-- the parser's tower level is a decreasing function of the formatter's precedence: the loose
operators (`||`, `&&`, comparisons) sit at level `6 - precedence`, the arithmetic ones at `7 - precedence` -/
theorem tower_add_precedence (op : BinOp) :
    op.precedence ≤ 4 ∧ op.tower + op.precedence = 6 ∨ 6 ≤ op.precedence ∧ op.tower + op.precedence = 7 := by
  cases op <;> decide

theorem precedence_lt_iff (a b : BinOp) : a.precedence < b.precedence ↔ b.tower < a.tower := by
  have := tower_add_precedence a
  have := tower_add_precedence b
  omega

theorem table_range (op : BinOp) :
    pipePrecedence < op.precedence ∧ op.precedence < otherPrecedence - 1 ∧ op.tower < towerLevels := by
  cases op <;> decide

theorem table_mirrored (op : BinOp) : levelRight op.tower = op.mirrored := by
  cases op <;> decide

theorem table_pipe_rest : pipePrecedence < pipeRestThreshold := by decide

/-- lowest tower height at which the expression can stand without parentheses:
    0 = `unary`, `t + 1` = binary level `t`, `towerLevels + 1` = pipeline -/
def Expr.ht : Expr → Nat
  | .bin op _ _ => op.tower + 1
  | .pipe _ _ => towerLevels + 1
  | _ => 0

/-- `x` as an operand at tower height `h`: what each `operator_side` call yields and level `h` reads back. -/
def rendAt (h : Nat) (x : Expr) : List Tok := if x.ht ≤ h then print x else paren (print x)

theorem rendAt_of_le {h : Nat} {x : Expr} (hx : x.ht ≤ h) : rendAt h x = print x := if_pos hx

theorem rendAt_succ_of_ne (t : Nat) (x : Expr) (h : x.ht ≠ t + 1) : rendAt (t + 1) x = rendAt t x := by
  unfold rendAt
  by_cases h1 : x.ht ≤ t
  · rw [if_pos h1, if_pos (by omega)]
  · rw [if_neg h1, if_neg (by omega)]

theorem side_eq (a s h : Nat) (x : Expr) (hiff : a > s ↔ x.ht > h) :
    operatorSide a s (print x) = rendAt h x := by
  unfold operatorSide rendAt
  by_cases c : a > s
  · have := hiff.mp c
    rw [if_pos c, if_neg (by omega)]
  · have : ¬ x.ht > h := fun d => c (hiff.mpr d)
    rw [if_neg c, if_pos (by omega)]

theorem side_plain (op : BinOp) (x : Expr) :
    operatorSide op.precedence x.binopPrecedence (print x) = rendAt (op.tower + 1) x := by
  have hr := table_range op
  apply side_eq
  cases x with
  | bin op' l r => exact (precedence_lt_iff op' op).trans Nat.succ_lt_succ_iff.symm
  | pipe l r =>
    show op.precedence > pipePrecedence ↔ towerLevels + 1 > op.tower + 1
    constructor <;> intro _ <;> omega
  | atom _ | un _ _ =>
    show op.precedence > otherPrecedence ↔ 0 > op.tower + 1
    constructor <;> intro _ <;> omega

theorem side_decr (op : BinOp) (x : Expr) :
    operatorSide op.precedence (x.binopPrecedence - 1) (print x) = rendAt op.tower x := by
  have hr := table_range op
  apply side_eq
  cases x with
  | bin op' l r =>
    -- `op'.precedence ≤ op.precedence`: the converse of the strict order
    have := precedence_lt_iff op op'
    have := (table_range op').1
    show op.precedence > op'.precedence - 1 ↔ op'.tower + 1 > op.tower
    omega
  | pipe l r =>
    show op.precedence > pipePrecedence - 1 ↔ towerLevels + 1 > op.tower
    constructor <;> intro _ <;> omega
  | atom _ | un _ _ =>
    show op.precedence > otherPrecedence - 1 ↔ 0 > op.tower
    constructor <;> intro _ <;> omega

/-- `Formatter::bin_op` in terms of heights -/
theorem print_bin (op : BinOp) (l r : Expr) :
    print (.bin op l r) =
      (if op.mirrored then rendAt op.tower l else rendAt (op.tower + 1) l) ++ [Tok.op op] ++
      (if op.mirrored then rendAt (op.tower + 1) r else rendAt op.tower r) := by
  cases hm : op.mirrored <;> simp [print, hm, side_plain, side_decr]

/-- `op₁ x₁ op₂ x₂ …`, operands at height `t`: what the loop of one level reads. -/
def flatItems (t : Nat) (items : List (BinOp × Expr)) : List Tok :=
  items.flatMap (fun it => Tok.op it.1 :: rendAt t it.2)

/-- left spine at tower level `t`: `((a op₁ b) op₂ c)` ↦ `(a, [(op₁, b), (op₂, c)])` -/
def chainL (t : Nat) : Expr → Expr × List (BinOp × Expr)
  | .bin op l r => if op.tower = t then ((chainL t l).1, (chainL t l).2 ++ [(op, r)]) else (.bin op l r, [])
  | e => (e, [])

/-- right spine at tower level `t`: `a op₁ (b op₂ c)` ↦ `(a, [(op₁, b), (op₂, c)])` -/
def chainR (t : Nat) : Expr → Expr × List (BinOp × Expr)
  | .bin op l r => if op.tower = t then (l, (op, (chainR t r).1) :: (chainR t r).2) else (.bin op l r, [])
  | e => (e, [])

theorem combineLeft_append (a : Expr) (xs ys : List (BinOp × Expr)) :
    combineLeft a (xs ++ ys) = combineLeft (combineLeft a xs) ys := by
  simp [combineLeft, List.foldl_append]

theorem chainL_combine (t : Nat) (e : Expr) : combineLeft (chainL t e).1 (chainL t e).2 = e := by
  fun_induction chainL t e with
  | case1 op l r _ ih => rw [combineLeft_append, ih]; rfl
  | case2 | case3 => rfl

theorem chainR_combine (t : Nat) (e : Expr) : combineRight (chainR t e).1 (chainR t e).2 = e := by
  fun_induction chainR t e with
  | case1 op l r _ ih => rw [combineRight, ih]
  | case2 | case3 => rfl

theorem chainL_tower (t : Nat) (e : Expr) : ∀ it ∈ (chainL t e).2, it.1.tower = t := by
  fun_induction chainL t e with
  | case1 op l r h ih =>
    intro it hit
    rcases List.mem_append.mp hit with hit | hit
    · exact ih it hit
    · cases List.mem_singleton.mp hit
      exact h
  | case2 | case3 => exact fun _ hit => nomatch hit

theorem chainR_tower (t : Nat) (e : Expr) : ∀ it ∈ (chainR t e).2, it.1.tower = t := by
  fun_induction chainR t e with
  | case1 op l r h ih =>
    intro it hit
    rcases List.mem_cons.mp hit with rfl | hit
    · exact h
    · exact ih it hit
  | case2 | case3 => exact fun _ hit => nomatch hit

theorem chainL_size (t : Nat) (e : Expr) : (chainL t e).1.size ≤ e.size ∧ ∀ it ∈ (chainL t e).2, it.2.size < e.size := by
  fun_induction chainL t e with
  | case1 op l r _ ih =>
    refine ⟨Nat.le_trans ih.1 (by simp only [Expr.size]; omega), fun it hit => ?_⟩
    rcases List.mem_append.mp hit with hit | hit
    · have := ih.2 it hit
      simp only [Expr.size]; omega
    · cases List.mem_singleton.mp hit
      simp only [Expr.size]; omega
  | case2 | case3 => exact ⟨Nat.le_refl _, fun _ hit => nomatch hit⟩

theorem chainR_size (t : Nat) (e : Expr) : (chainR t e).1.size ≤ e.size ∧ ∀ it ∈ (chainR t e).2, it.2.size < e.size := by
  fun_induction chainR t e with
  | case1 op l r _ ih =>
    refine ⟨by simp only [Expr.size]; omega, fun it hit => ?_⟩
    rcases List.mem_cons.mp hit with rfl | hit
    · have := ih.1
      simp only [Expr.size]; omega
    · have := ih.2 it hit
      simp only [Expr.size]; omega
  | case2 | case3 => exact ⟨Nat.le_refl _, fun _ hit => nomatch hit⟩

/-- left-folded level: every operator of the level has `mirrored = false` -/
theorem rendAt_chainL (t : Nat) (ht : t < towerLevels) (hl : levelRight t = false) :
    ∀ x, rendAt (t + 1) x = rendAt t (chainL t x).1 ++ flatItems t (chainL t x).2
  | .bin op l r => by
    unfold chainL
    by_cases h : op.tower = t
    · subst h
      rw [if_pos rfl, rendAt_of_le (h := op.tower + 1) (x := .bin op l r) (Nat.le_refl _), print_bin, (table_mirrored op).symm.trans hl,
        rendAt_chainL op.tower ht hl l]
      simp [flatItems, List.flatMap_append]
    · rw [if_neg h]
      exact (rendAt_succ_of_ne t (.bin op l r) fun e => h (Nat.succ.inj e)).trans (List.append_nil _).symm
  | .pipe l r => (rendAt_succ_of_ne t (.pipe l r) (Nat.ne_of_gt (Nat.succ_lt_succ ht))).trans (List.append_nil _).symm
  | .atom n => (rendAt_succ_of_ne t (.atom n) (Nat.succ_ne_zero t).symm).trans (List.append_nil _).symm
  | .un o y => (rendAt_succ_of_ne t (.un o y) (Nat.succ_ne_zero t).symm).trans (List.append_nil _).symm

theorem rendAt_chainR (t : Nat) (ht : t < towerLevels) (hl : levelRight t = true) :
    ∀ x, rendAt (t + 1) x = rendAt t (chainR t x).1 ++ flatItems t (chainR t x).2
  | .bin op l r => by
    unfold chainR
    by_cases h : op.tower = t
    · subst h
      rw [if_pos rfl, rendAt_of_le (h := op.tower + 1) (x := .bin op l r) (Nat.le_refl _), print_bin, (table_mirrored op).symm.trans hl,
        rendAt_chainR op.tower ht hl r]
      simp [flatItems]
    · rw [if_neg h]
      exact (rendAt_succ_of_ne t (.bin op l r) fun e => h (Nat.succ.inj e)).trans (List.append_nil _).symm
  | .pipe l r => (rendAt_succ_of_ne t (.pipe l r) (Nat.ne_of_gt (Nat.succ_lt_succ ht))).trans (List.append_nil _).symm
  | .atom n => (rendAt_succ_of_ne t (.atom n) (Nat.succ_ne_zero t).symm).trans (List.append_nil _).symm
  | .un o y => (rendAt_succ_of_ne t (.un o y) (Nat.succ_ne_zero t).symm).trans (List.append_nil _).symm

end AikenVerif.Prec
