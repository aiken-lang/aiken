import AikenVerif.Model.GenState
/-! helper lemmas for C09: the interner's map, the counters, running a body piecewise -/
namespace AikenVerif.GenState

theorem updateIds_same (ids : Text → List Nat) (t : Text) (v : List Nat) : updateIds ids t v t = v := by
  simp [updateIds]

theorem updateIds_other (ids : Text → List Nat) (t x : Text) (v : List Nat) (h : x ≠ t) :
    updateIds ids t v x = ids x := by
  simp [updateIds, h]

theorem updateIds_restore (ids : Text → List Nat) (t : Text) (u : Nat) :
    updateIds (updateIds ids t (u :: ids t)) t (ids t) = ids := by
  funext x
  by_cases h : x = t
  · subst h; simp [updateIds]
  · simp [updateIds, h]

theorem nIntern_append (a b : List Instr) : nIntern (a ++ b) = nIntern a + nIntern b := by
  induction a with
  | nil => simp [nIntern]
  | cons i rest ih => cases i <;> simp only [List.cons_append, nIntern, ih, Nat.add_right_comm]

theorem nFresh_append (a b : List Instr) : nFresh (a ++ b) = nFresh a + nFresh b := by
  induction a with
  | nil => simp [nFresh]
  | cons i rest ih => cases i <;> simp only [List.cons_append, nFresh, ih, Nat.add_right_comm]

theorem runBody_append (a b : List Instr) : ∀ s,
    runBody (a ++ b) s =
      match runBody a s with
      | none => none
      | some (s₁, o₁) =>
        match runBody b s₁ with
        | none => none
        | some (s₂, o₂) => some (s₂, o₁ ++ o₂) := by
  induction a with
  | nil =>
    intro s
    simp only [List.nil_append, runBody]
    cases runBody b s <;> rfl
  | cons i rest ih =>
    intro s
    simp only [List.cons_append, runBody]
    cases step i s with
    | none => rfl
    | some r =>
      obtain ⟨s₁, o₁⟩ := r
      simp only [ih s₁]
      cases runBody rest s₁ with
      | none => rfl
      | some r₂ =>
        obtain ⟨s₂, o₂⟩ := r₂
        dsimp only
        cases runBody b s₂ <;> simp

theorem runBody_cons_some {i : Instr} {rest : List Instr} {s s₁ s₂ : Resettable} {o₁ o₂ : Out}
    (h₁ : step i s = some (s₁, o₁)) (h₂ : runBody rest s₁ = some (s₂, o₂)) :
    runBody (i :: rest) s = some (s₂, o₁ ++ o₂) := by
  simp only [runBody, h₁, h₂]

theorem runBody_append_some {a b : List Instr} {s s₁ s₂ : Resettable} {o₁ o₂ : Out}
    (h₁ : runBody a s = some (s₁, o₁)) (h₂ : runBody b s₁ = some (s₂, o₂)) :
    runBody (a ++ b) s = some (s₂, o₁ ++ o₂) := by
  simp only [runBody_append, h₁, h₂]

theorem advance_advance (s : Resettable) (a b a' b' : Nat) :
    advance (advance s a b) a' b' = advance s (a + a') (b + b') := by
  simp only [advance, Nat.add_assoc]

theorem advance_cur_sub (s : Resettable) (a b : Nat) : (advance s a b).cur - s.cur = a :=
  Nat.add_sub_cancel_left ..

theorem advance_idg_sub (s : Resettable) (a b : Nat) : (advance s a b).idg - s.idg = b :=
  Nat.add_sub_cancel_left ..

theorem popText_advance_intern (s : Resettable) (t : Text) (a b : Nat) :
    popText (advance (intern s t) a b) t = some (advance s (a + 1) b) := by
  simp only [popText, advance, intern, updateIds_same, updateIds_restore]
  rw [Nat.add_assoc, Nat.add_comm 1]

theorem interned_cons {s : Resettable} {env : List Text} (hs : ∀ t' ∈ env, s.ids t' ≠ []) (t : Text) :
    ∀ t' ∈ t :: env, (intern s t).ids t' ≠ [] := by
  intro t' ht'
  by_cases heq : t' = t
  · simp only [heq, intern, updateIds_same]
    exact List.cons_ne_nil _ _
  · simp only [intern, updateIds_other _ _ _ _ heq]
    exact hs t' ((List.mem_cons.mp ht').resolve_left heq)

end AikenVerif.GenState
