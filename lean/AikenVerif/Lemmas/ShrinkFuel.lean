import AikenVerif.Model.Shrink
/-!
Fuel independence: once a loop ends with `ok`, more fuel (for it and for the loops inside it)
gives the same result: the file ends at `simplify_mono`.  (That `simplify run F s` is the same for every
`F ≥ fuelBound s.choices` is `C16.simplify_fuel_independent`, which adds that such a run ends.)

Each loop at `fuel + 1` and at `fuel + d + 1` unfolds to the same tree of tests, which do not look at
the fuel; so the two runs take the same branch, and at the leaves stand the same value or two
recursive calls.
-/
namespace AikenVerif.Shrink

variable {α : Type} (run : Choices → Status α)

/-- `r'` is `r` up to running out of fuel: a run that ended keeps its result with more fuel -/
def Res.le {σ : Type} (r r' : Res σ) : Prop := r = .outOfFuel ∨ r = r'

theorem Res.le.refl {σ : Type} (r : Res σ) : r.le r := .inr rfl

theorem Res.le.ok {σ : Type} {r r' : Res σ} {s : σ} (h : r.le r') (e : r = .ok s) : r' = .ok s := by
  rcases h with rfl | rfl
  · cases e
  · exact e

theorem Res.le.bind {σ τ : Type} {r r' : Res σ} {f f' : σ → Res τ} (h : r.le r')
    (hf : ∀ s, (f s).le (f' s)) : (r.bind f).le (r'.bind f') := by
  rcases h with rfl | rfl
  · exact .inl rfl
  · cases r with
    | ok s => exact hf s
    | outOfFuel => exact .inl rfl
    | panic => exact .inr rfl

theorem Res.le.ite {σ : Type} {c : Prop} [Decidable c] {a r r' : Res σ} (h : r.le r') :
    (if c then a else r).le (if c then a else r') := by
  split
  · exact .refl _
  · exact h

theorem bsLoop_mono (f : UInt8 → List (Nat × UInt8)) :
    ∀ (fuel d : Nat) (lo hi : UInt8) (s : CE α),
      (bsLoop run f fuel lo hi s).le (bsLoop run f (fuel + d) lo hi s)
  | 0, _, _, _, _ => .inl rfl
  | n + 1, d, lo, hi, s => by
    rw [Nat.add_right_comm]
    unfold bsLoop
    split
    · dsimp only
      split
      · exact bsLoop_mono f n d ..
      · exact bsLoop_mono f n d ..
    · exact .refl _

theorem binarySearchReplace_mono (f : UInt8 → List (Nat × UInt8)) (F d : Nat)
    (lo hi : UInt8) (s : CE α) :
    (binarySearchReplace run f F lo hi s).le (binarySearchReplace run f (F + d) lo hi s) := by
  unfold binarySearchReplace
  split
  · exact .refl _
  · exact bsLoop_mono run f F d ..

theorem deleteLoop_mono (k : Nat) :
    ∀ (fuel d i : Nat) (s : CE α), (deleteLoop run k fuel i s).le (deleteLoop run k (fuel + d) i s)
  | 0, _, _, _ => .inl rfl
  | n + 1, d, i, s => by
    have ih := deleteLoop_mono k n d
    rw [Nat.add_right_comm]
    unfold deleteLoop
    by_cases hc : i ≥ s.choices.length
    · rw [if_pos hc, if_pos hc]
      split
      · exact .refl _
      · exact ih ..
    · rw [if_neg hc, if_neg hc]
      dsimp only
      split                      -- is the candidate accepted?
      · exact ih ..
      · split                    -- `i > 0`?
        · split                  -- `cand[i - 1]?`
          · exact .refl _
          · split                -- `b > 0`?
            · split              -- is the retry accepted?
              · exact ih ..
              · exact ih ..
            · exact ih ..
        · exact .refl _

theorem zeroLoop_mono (k : Nat) :
    ∀ (fuel d i : Nat) (s : CE α), (zeroLoop run k fuel i s).le (zeroLoop run k (fuel + d) i s)
  | 0, _, _, _ => .inl rfl
  | n + 1, d, i, s => by
    rw [Nat.add_right_comm]
    unfold zeroLoop
    split
    · split
      · exact zeroLoop_mono k n d ..
      · exact zeroLoop_mono k n d ..
    · exact .refl _

theorem minLoop_mono (F e : Nat) :
    ∀ (fuel d i : Nat) (s : CE α), (minLoop run F fuel i s).le (minLoop run (F + e) (fuel + d) i s)
  | 0, _, _, _ => .inl rfl
  | n + 1, d, i, s => by
    rw [Nat.add_right_comm]
    unfold minLoop
    rcases s.choices[i]? with _ | hi
    · exact .refl _
    · dsimp only
      rcases binarySearchReplace_mono run (fun v => [(i, v)]) F e 0 hi s with h | h
      · rw [h]; exact .inl rfl
      · rw [← h]
        split
        · split
          · exact .refl _
          · exact minLoop_mono F e n d ..
        · exact .refl _

theorem sortLoop_mono (k : Nat) :
    ∀ (fuel d i : Nat) (s : CE α), (sortLoop run k fuel i s).le (sortLoop run k (fuel + d) i s)
  | 0, _, _, _ => .inl rfl
  | n + 1, d, i, s => by
    rw [Nat.add_right_comm]
    unfold sortLoop
    split
    · split
      · exact .refl _
      · exact sortLoop_mono k n d ..
    · exact .refl _

theorem pairLoop_mono (F e k : Nat) :
    ∀ (fuel d j : Nat) (s : CE α),
      (pairLoop run F k fuel j s).le (pairLoop run (F + e) k (fuel + d) j s)
  | 0, _, _, _ => .inl rfl
  | n + 1, d, j, s => by
    have ih := pairLoop_mono F e k n d
    rw [Nat.add_right_comm]
    unfold pairLoop
    by_cases hc : j ≥ k
    · rw [if_pos hc, if_pos hc]
      dsimp only
      split                      -- the two reads before the swap
      · rename_i ci cj _ _
        generalize (if ci > cj then (replace run s [(j - k, cj), (j, ci)]).2 else s) = s₁
        split                    -- the two reads after it
        · rename_i iv jv _ _
          by_cases hcond : (iv > 0 && jv ≤ 255 - iv) = true
          · rw [if_pos hcond, if_pos hcond]
            rcases binarySearchReplace_mono run (pairIvs (j - k) j iv jv) F e 0 iv s₁ with h | h
            · rw [h]; exact .inl rfl
            · rw [← h]
              split              -- did the redistribution end with `ok`?
              · exact ih ..
              · exact .refl _
          · rw [if_neg hcond, if_neg hcond]
            exact ih ..
        · exact .refl _
      · exact .refl _
    · rw [if_neg hc, if_neg hc]
      exact .refl _

theorem deletePass_mono (F d k : Nat) (s : CE α) :
    (deletePass run F k s).le (deletePass run (F + d) k s) :=
  .ite (deleteLoop_mono run k F d ..)

theorem zeroPass_mono (F d k : Nat) (s : CE α) :
    (zeroPass run F k s).le (zeroPass run (F + d) k s) :=
  zeroLoop_mono run k F d ..

theorem minPass_mono (F d : Nat) (s : CE α) : (minPass run F s).le (minPass run (F + d) s) :=
  .ite (minLoop_mono run F d F d ..)

theorem sortPass_mono (F d k : Nat) (s : CE α) :
    (sortPass run F k s).le (sortPass run (F + d) k s) :=
  .ite (sortLoop_mono run k F d ..)

theorem pairPass_mono (F d k : Nat) (s : CE α) :
    (pairPass run F k s).le (pairPass run (F + d) k s) :=
  .ite (pairLoop_mono run F d k F d ..)

theorem onePass_mono (F d : Nat) (s : CE α) : (onePass run F s).le (onePass run (F + d) s) := by
  unfold onePass
  refine (deletePass_mono run F d 8 s).bind fun s => ?_
  refine (deletePass_mono run F d 4 s).bind fun s => ?_
  refine (deletePass_mono run F d 2 s).bind fun s => ?_
  refine (deletePass_mono run F d 1 s).bind fun s => ?_
  split
  · exact .refl _
  · refine (zeroPass_mono run F d 8 s).bind fun s => ?_
    refine (zeroPass_mono run F d 4 s).bind fun s => ?_
    refine (zeroPass_mono run F d 2 s).bind fun s => ?_
    refine (minPass_mono run F d s).bind fun s => ?_
    refine (sortPass_mono run F d 8 s).bind fun s => ?_
    refine (sortPass_mono run F d 4 s).bind fun s => ?_
    refine (sortPass_mono run F d 2 s).bind fun s => ?_
    refine (pairPass_mono run F d 2 s).bind fun s => ?_
    exact pairPass_mono run F d 1 s

theorem simplifyLoop_mono (F e : Nat) :
    ∀ (fuel d : Nat) (s : CE α),
      (simplifyLoop run F fuel s).le (simplifyLoop run (F + e) (fuel + d) s)
  | 0, _, _ => .inl rfl
  | n + 1, d, s => by
    rw [Nat.add_right_comm]
    unfold simplifyLoop
    rcases onePass_mono run F e s with h | h
    · rw [h]; exact .inl rfl
    · rw [← h]
      split
      · split
        · exact .refl _
        · exact simplifyLoop_mono F e n d _
      · exact .refl _

theorem simplify_mono {F F' : Nat} (hF : F ≤ F') (s : CE α) :
    (simplify run F s).le (simplify run F' s) := by
  obtain ⟨d, rfl⟩ := Nat.exists_eq_add_of_le hF
  exact simplifyLoop_mono run F d F d s

end AikenVerif.Shrink
