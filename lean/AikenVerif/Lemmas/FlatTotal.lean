import AikenVerif.Model.Flat
/-!
The Flat decoder is total (C20).  It never runs out of fuel: every loop iteration and every nested call
consumes at least one bit, and the fuel handed out at the top is the number of bits + 1.  It never answers
`panic` in `Mode.fixed`.  `Runs T P d k s` claims the first under `T` (with `k` the least number of bits a
successful run consumes) and the second under `P`, so that one pass over the decoders gives both.
-/
namespace AikenVerif.Flat
open AikenVerif.Gen.FlatTags

/-- `d` answers `panic` on no input -/
def NoPanic {α : Type} (d : Dec α) : Prop := ∀ s, d s ≠ .panic

/-- progress at `s`: `d` does not run out of fuel there, and a successful run consumes at least `k` bits -/
def ProgAt {α : Type} (d : Dec α) (k : Nat) (s : S) : Prop :=
  d s ≠ .fuel ∧ ∀ v s', d s = .ok (v, s') → s'.bs.length + k ≤ s.bs.length

/-- progress on every input -/
def Prog {α : Type} (d : Dec α) (k : Nat) : Prop := ∀ s, ProgAt d k s

def Runs {α : Type} (T P : Prop) (d : Dec α) (k : Nat) (s : S) : Prop :=
  (T → ProgAt d k s) ∧ (P → d s ≠ .panic)

abbrev Stops {α : Type} (m : Mode) (d : Dec α) (k : Nat) (s : S) : Prop := Runs True (m = .fixed) d k s

section
variable {α β : Type} {T P : Prop} {m : Mode} {d : Dec α} {k : Nat} {s : S}

theorem Runs.of_err (h : d s = .err) : Runs T P d k s := by
  simp [Runs, ProgAt, h]

theorem Runs.of_ok {v : α} {s' : S} (h : d s = .ok (v, s')) (hl : s'.bs.length + k ≤ s.bs.length) :
    Runs T P d k s := by
  refine ⟨fun _ => ⟨by simp [h], fun w t e => ?_⟩, fun _ => by simp [h]⟩
  rw [h] at e; cases e; exact hl

theorem Runs.of_panic (hP : ¬ P) (h : d s = .panic) : Runs T P d k s := by
  simp [Runs, ProgAt, h, hP]

theorem Runs.pure (v : α) : Runs T P (Dec.pure v) 0 s := .of_ok rfl (Nat.le_refl _)
theorem Runs.fail : Runs T P (Dec.fail : Dec α) k s := .of_err rfl

theorem Runs.mono {k' : Nat} (h : Runs T P d k s) (hk : k' ≤ k) : Runs T P d k' s :=
  ⟨fun t => ⟨(h.1 t).1, fun v s' e => by have := (h.1 t).2 v s' e; omega⟩, h.2⟩

theorem Runs.zero (h : Runs T P d k s) : Runs T P d 0 s := h.mono (Nat.zero_le _)

theorem Runs.of_stops (hP : P → m = .fixed) (h : Stops m d k s) : Runs T P d k s :=
  ⟨fun _ => h.1 trivial, fun p => h.2 (hP p)⟩

theorem NoPanic.of_stops (h : ∀ s, Stops .fixed d k s) : NoPanic d := fun s => (h s).2 rfl

theorem Runs.of_eq {d' : Dec α} {s' : S} (h : d s = d' s') (hl : s'.bs.length ≤ s.bs.length)
    (hs : Runs T P d' k s') : Runs T P d k s := by
  unfold Runs ProgAt at *
  rw [h]
  exact ⟨fun t => ⟨(hs.1 t).1, fun v u e => by have := (hs.1 t).2 v u e; omega⟩, hs.2⟩

theorem Runs.bind_add {f : α → Dec β} {k' : Nat} (h₁ : Runs T P d k s)
    (h₂ : ∀ v s', (T → s'.bs.length + k ≤ s.bs.length) → Runs T P (f v) k' s') :
    Runs T P (d.bind f) (k + k') s := by
  unfold Runs ProgAt Dec.bind at *
  cases h : d s with
  | ok r =>
    obtain ⟨v, s'⟩ := r
    have a := fun t => (h₁.1 t).2 v s' h
    have b := h₂ v s' a
    exact ⟨fun t => ⟨(b.1 t).1, fun w u e => by have := (b.1 t).2 w u e; have := a t; omega⟩, b.2⟩
  | err => simp
  | panic => exact ⟨by simp, fun p => absurd h (h₁.2 p)⟩
  | fuel => exact ⟨fun t => absurd h (h₁.1 t).1, by simp⟩

theorem Runs.bind {f : α → Dec β} (h₁ : Runs T P d k s)
    (h₂ : ∀ v s', (T → s'.bs.length + k ≤ s.bs.length) → Runs T P (f v) 0 s') : Runs T P (d.bind f) k s :=
  h₁.bind_add h₂

theorem Runs.bind_pure (g : α → β) (h : Runs T P d k s) : Runs T P (d.bind fun x => Dec.pure (g x)) k s :=
  h.bind fun _ _ _ => .pure _

theorem Stops.panic : Stops .impl (Dec.panic : Dec α) k s := .of_panic nofun rfl

end

section
variable {T P : Prop} (s : S)

theorem runs_bits (k : Nat) : Runs T P (decBits k) k s := by
  by_cases h : s.bs.length < k
  · exact .of_err (if_pos h)
  · exact .of_ok (if_neg h) (by simp only [List.length_drop]; omega)

theorem runs_bit : Runs T P decBit 1 s := by
  obtain ⟨n, bs⟩ := s
  cases bs with
  | nil => exact .of_err rfl
  | cons b r => exact .of_ok rfl (Nat.le_refl _)

theorem runs_fillerBits : ∀ (bs : Bits) (n : Nat), Runs T P decFiller 1 ⟨n, bs⟩
  | [], _ => .of_err rfl
  | true :: _, _ => .of_ok rfl (Nat.le_refl _)
  | false :: r, n => .of_eq (s' := ⟨n + 1, r⟩) rfl (Nat.le_succ _) (runs_fillerBits r (n + 1))

theorem runs_filler : Runs T P decFiller 1 s := runs_fillerBits s.bs s.n

theorem runs_builtin : Runs T P decBuiltin 7 s := by
  unfold decBuiltin
  refine (runs_bits s _).bind fun t s1 _ => ?_
  split
  · exact .pure _
  · exact .fail

end

section
variable (m : Mode) (s : S)

/-- at the end of the buffer the linked decoder panics -/
theorem stops_bool : Stops m (decBool m) 1 s := by
  obtain ⟨n, bs⟩ := s
  cases bs with
  | nil => cases m; exact .of_panic nofun rfl; exact .of_err rfl
  | cons b r => exact .of_ok rfl (Nat.le_refl _)

/-- groups `i ≤ 9` are read; at group 10 the linked decoder panics on the shift -/
theorem stops_wordGo : ∀ (f i acc : Nat), f + i = 11 → i ≤ 10 → ∀ s, Stops m (decWordGo m f i acc) 8 s
  | 0, i, acc, h, hi, s => by omega
  | f + 1, i, acc, h, hi, s => by
    unfold decWordGo
    refine (runs_bits s 8).bind fun w8 s' _ => ?_
    simp only
    by_cases hwide : usizeBits ≤ 7 * i
    · rw [if_pos hwide]
      cases m
      · exact Stops.panic
      · exact .fail
    rw [if_neg hwide]
    split
    · exact .fail
    split
    · exact .pure _
    · have : i ≤ 9 := by simp only [usizeBits] at hwide; omega
      exact (stops_wordGo f (i + 1) _ (by omega) (by omega) s').zero

theorem stops_word : Stops m (decWord m) 8 s := stops_wordGo m 11 0 0 rfl (by omega) s

theorem stops_int64 : Stops m (decInt64 m) 8 s := (stops_word m s).bind_pure _

theorem stops_bigWordGo : ∀ (f : Nat) (s : S), s.bs.length < 8 * f → Stops m (decBigWordGo f) 8 s
  | 0, s, h => by omega
  | f + 1, s, h => by
    unfold decBigWordGo
    refine (runs_bits s 8).bind fun w8 s' hs' => ?_
    have := hs' trivial
    split
    · exact .pure _
    · exact (stops_bigWordGo f s' (by omega)).zero.bind_pure _

theorem stops_bigWord : Stops m decBigWord 8 s := stops_bigWordGo m _ s (by omega)

theorem stops_bigInt : Stops m decBigInt 8 s := (stops_bigWord m s).bind_pure _

theorem stops_blocksGo : ∀ (f : Nat) (s : S), s.bs.length < 8 * f → Stops m (decBlocksGo f) 8 s
  | 0, s, h => by omega
  | f + 1, s, h => by
    unfold decBlocksGo
    refine (runs_bits s 8).bind fun len s1 hs1 => ?_
    have := hs1 trivial
    by_cases h0 : len = 0
    · exact .of_ok (if_pos h0) (Nat.le_refl _)
    by_cases hshort : s1.bs.length < 8 * (len + 1)
    · exact .of_err (by simp only [if_neg h0, if_pos hshort])
    -- what remains is `(decBlocksGo f).bind` of a continuation that only returns, on the state after the block
    refine .of_eq (s' := ⟨s1.n + 8 * len, s1.bs.drop (8 * len)⟩)
      (d' := (decBlocksGo f).bind fun more => Dec.pure (bytesOfBits (s1.bs.take (8 * len)) ++ more))
      (by simp only [if_neg h0, if_neg hshort, Dec.bind]
          cases decBlocksGo f ⟨s1.n + 8 * len, s1.bs.drop (8 * len)⟩ <;> rfl)
      (List.length_drop ▸ Nat.sub_le _ _) ?_
    exact (stops_blocksGo f _ (by simp only [List.length_drop]; omega)).zero.bind_pure _

theorem stops_bytes : Stops m decBytes 1 s := by
  unfold decBytes
  refine (runs_filler s).bind fun _ s1 _ => ?_
  by_cases hal : s1.n % 8 ≠ 0
  · exact .of_err (if_pos hal)
  · exact .of_eq (if_neg hal) (Nat.le_refl _) (stops_blocksGo m _ s1 (by omega)).zero

theorem stops_utf8 : Stops m decUtf8 1 s := by
  unfold decUtf8
  refine (stops_bytes m s).bind fun b s1 _ => ?_
  split
  · exact .pure _
  · exact .fail

/-- `decode_list_with` -/
theorem runs_list {α : Type} {T P : Prop} {d : Dec α} : ∀ (k : Nat) (s : S), (T → s.bs.length < k) →
    (∀ s₂ : S, (T → s₂.bs.length ≤ s.bs.length) → Runs T P d 0 s₂) → Runs T P (decList d k) 1 s
  | 0, s, h, _ => ⟨fun t => absurd (h t) (Nat.not_lt_zero _), fun _ => nofun⟩
  | k + 1, s, h, hd => by
    unfold decList
    refine (runs_bit s).bind fun b s1 hs1 => ?_
    split
    · refine (hd s1 fun t => Nat.le_of_succ_le (hs1 t)).bind fun x s2 hs2 => ?_
      have h2 : T → s2.bs.length < k := fun t => by have := h t; have := hs1 t; have := hs2 t; omega
      exact (runs_list k s2 h2 fun s3 h3 => hd s3 fun t => by have := hs1 t; have := hs2 t; have := h3 t; omega).zero.bind_pure _
    · exact .pure _

theorem stops_tagList : Stops m decTagList 1 s :=
  runs_list (s.bs.length + 1) s (fun _ => Nat.lt_succ_self _) fun s2 _ => (runs_bits s2 _).zero

end

theorem stripPrefix_length : ∀ (p xs r : List Nat), stripPrefix p xs = some r → r.length + p.length = xs.length
  | [], xs, r, h => by cases h; rfl
  | _ :: _, [], r, h => by cases h
  | p :: ps, x :: xs, r, h => by
    simp only [stripPrefix] at h
    split at h
    · have := stripPrefix_length ps xs r h; simp only [List.length_cons]; omega
    · cases h

theorem matchTypeArm_length : ∀ (arms : List (List Nat × TyCtor)) (tags : List Nat) (c : TyCtor) (r : List Nat),
    (∀ a ∈ arms, a.1 ≠ []) → matchTypeArm arms tags = some (c, r) → r.length < tags.length
  | [], _, _, _, _, h => by cases h
  | (p, c') :: arms, tags, c, r, hne, h => by
    simp only [matchTypeArm] at h
    split at h
    · rename_i r' hs
      cases h
      have := stripPrefix_length p tags r hs
      have hp : p ≠ [] := hne (p, c') List.mem_cons_self
      have := List.length_pos_iff.mpr hp
      omega
    · exact matchTypeArm_length arms tags c r (fun a ha => hne a (List.mem_cons_of_mem _ ha)) h

theorem typeDecArms_nonempty : ∀ a ∈ typeDecArms, a.1 ≠ [] := by decide

/-- `decode_type` -/
theorem decTy_err_or_ok : ∀ (f : Nat) (tags : List Nat), tags.length < f →
    decTy f tags = .err ∨ ∃ t r, decTy f tags = .ok (t, r) ∧ r.length < tags.length
  | 0, tags, h => by omega
  | f + 1, tags, h => by
    unfold decTy
    rcases hm : matchTypeArm typeDecArms tags with _ | ⟨c, r⟩
    · exact .inl rfl
    have hr := matchTypeArm_length typeDecArms tags c r typeDecArms_nonempty hm
    cases c with
    | list =>
      rcases decTy_err_or_ok f r (by omega) with h1 | ⟨t, r', h1, hr'⟩
      · exact .inl (by simp only [h1])
      · exact .inr ⟨.list t, r', by simp only [h1], by omega⟩
    | pair =>
      rcases decTy_err_or_ok f r (by omega) with h1 | ⟨a, r', h1, hr'⟩
      · exact .inl (by simp only [h1])
      · rcases decTy_err_or_ok f r' (by omega) with h2 | ⟨b, r'', h2, hr''⟩
        · exact .inl (by simp only [h1, h2])
        · exact .inr ⟨.pair a b, r'', by simp only [h1, h2], by omega⟩
    | _ => exact .inr ⟨_, r, rfl, hr⟩

theorem decConstTy_err_or_ok (tags : List Nat) : decConstTy tags = .err ∨ ∃ t, decConstTy tags = .ok t := by
  unfold decConstTy
  rcases matchConstArm constDecArms tags with _ | ⟨_ | c, r⟩
  · exact .inl rfl
  · exact .inl rfl
  cases c with
  | list =>
    rcases decTy_err_or_ok (r.length + 1) r (Nat.lt_succ_self _) with h1 | ⟨t, r', h1, _⟩
    · exact .inl (by simp only [h1])
    · exact .inr ⟨.list t, by simp only [h1]⟩
  | pair =>
    rcases decTy_err_or_ok (r.length + 1) r (Nat.lt_succ_self _) with h1 | ⟨a, r', h1, _⟩
    · exact .inl (by simp only [h1])
    · rcases decTy_err_or_ok (r'.length + 1) r' (Nat.lt_succ_self _) with h2 | ⟨b, r'', h2, _⟩
      · exact .inl (by simp only [h1, h2])
      · exact .inr ⟨.pair a b, by simp only [h1, h2]⟩
  | _ => exact .inr ⟨_, rfl⟩

section
variable (cd : DataCodec) (m : Mode)

theorem stops_val : ∀ (t : Ty) (s : S), Stops m (decVal cd m t) 0 s
  | .integer, s => (stops_bigInt m s).zero.bind_pure _
  | .bytestring, s => (stops_bytes m s).zero.bind_pure _
  | .string, s => (stops_utf8 m s).zero.bind_pure _
  | .unit, s => .pure _
  | .bool, s => (stops_bool m s).zero.bind_pure _
  | .list t, s =>
    (runs_list (s.bs.length + 1) s (fun _ => Nat.lt_succ_self _) fun s2 _ => stops_val t s2).zero.bind_pure _
  | .pair a b, s => (stops_val a s).bind fun _ s1 _ => (stops_val b s1).bind_pure _
  | .data, s => by
    unfold decVal
    refine (stops_bytes m s).zero.bind fun b s1 _ => ?_
    split
    · exact .pure _
    · exact .fail
  | .g1, s | .g2, s => (stops_bytes m s).zero.bind fun _ _ _ => .fail
  | .ml, s => .fail

theorem stops_const (s : S) : Stops m (decConst cd m) 1 s := by
  unfold decConst
  refine (stops_tagList m s).bind fun tags s1 _ => ?_
  rcases decConstTy_err_or_ok tags with h | ⟨t, h⟩
  · rw [h]; exact .fail
  · rw [h]; exact stops_val cd m t s1

end

-- Termination and panic-freedom are asked of the binder decoders separately (`ProgFlatBinder`, `SafeFlatBinder`: one may
-- be panic-free and still loop), hence `T`, `P` arbitrary here: `True, False` is termination, `False, True` panic-freedom.
section
variable {β : Type} [FlatBinder β] {T P : Prop} (cd : DataCodec) (m : Mode) (hP : P → m = .fixed)
  (hvar : ∀ s, Runs T P (FlatBinder.decVar (β := β) m) 0 s)
  (hbinder : ∀ s, Runs T P (FlatBinder.decBinder (β := β) m) 0 s)
include hP hvar hbinder

theorem runs_term : ∀ (f : Nat) (s : S), (T → s.bs.length < f) → Runs T P (decTerm (β := β) cd m f) 4 s
  | 0, s, h => ⟨fun t => absurd (h t) (Nat.not_lt_zero _), fun _ => nofun⟩
  | f + 1, s, h => by
    have lt {a b : S} {k : Nat} (ha : T → a.bs.length < f) (hb : T → b.bs.length + k ≤ a.bs.length) :
        T → b.bs.length < f := fun t => Nat.lt_of_le_of_lt (Nat.le_of_add_right_le (hb t)) (ha t)
    have ih : ∀ s₂ : S, (T → s₂.bs.length < f) → Runs T P (decTerm (β := β) cd m f) 0 s₂ :=
      fun s₂ h₂ => (runs_term f s₂ h₂).zero
    have items : ∀ s₂ : S, (T → s₂.bs.length < f) → Runs T P (decList (decTerm (β := β) cd m f) f) 0 s₂ :=
      fun s₂ h₂ => (runs_list f s₂ h₂ fun s₃ h₃ => ih s₃ fun t => Nat.lt_of_le_of_lt (h₃ t) (h₂ t)).zero
    unfold decTerm
    refine (runs_bits s termTagWidth).bind fun tag s1 hs1 => ?_
    have h1 : T → s1.bs.length < f := fun t => by have := h t; have := hs1 t; simp only [termTagWidth] at this; omega
    -- one goal per arm of `decTerm`, in its order
    split
    · exact .fail  -- no arm for the tag
    · exact (hvar s1).bind_pure _  -- var
    · exact (ih s1 h1).bind_pure _  -- delay
    · exact (hbinder s1).bind fun _ s2 h2 => (ih s2 (lt h1 h2)).bind_pure _  -- lambda
    · exact (ih s1 h1).bind fun _ s2 h2 => (ih s2 (lt h1 h2)).bind_pure _  -- apply
    · exact (Runs.of_stops hP (stops_const cd m s1)).zero.bind_pure _  -- constant
    · exact (ih s1 h1).bind_pure _  -- force
    · exact .pure _  -- error
    · exact (runs_builtin s1).zero.bind_pure _  -- builtin
    · exact (Runs.of_stops hP (stops_word m s1)).zero.bind fun _ s2 h2 => (items s2 (lt h1 h2)).bind_pure _  -- constr
    · exact (ih s1 h1).bind fun _ s2 h2 => (items s2 (lt h1 h2)).bind_pure _  -- case

/-- version triple (3 × 8 bits at least), term (4), filler (1) -/
theorem runs_program (s : S) : Runs T P (decProgram (β := β) cd m) 29 s := by
  have word (s : S) : Runs T P (decWord m) 8 s := .of_stops hP (stops_word m s)
  have h := (word s).bind_add fun a s1 h1 => (word s1).bind_add fun b s2 h2 => (word s2).bind_add fun c s3 h3 =>
    (runs_term cd m hP hvar hbinder (s.bs.length + 1) s3
      fun t => by have := h1 t; have := h2 t; have := h3 t; omega).bind_add fun t s4 _ =>
      (runs_filler s4).bind_pure fun _ => (⟨(a, b, c), t⟩ : Program β)
  -- `decProgram` takes its fuel from the state it is run on, so it is this chain only when applied to `s`
  unfold Runs ProgAt decProgram
  exact h

end

class ProgFlatBinder (β : Type) [FlatBinder β] : Prop where
  prog_var : ∀ m : Mode, Prog (FlatBinder.decVar (β := β) m) 0
  prog_binder : ∀ m : Mode, Prog (FlatBinder.decBinder (β := β) m) 0

class SafeFlatBinder (β : Type) [FlatBinder β] : Prop where
  np_var : NoPanic (FlatBinder.decVar (β := β) .fixed)
  np_binder : NoPanic (FlatBinder.decBinder (β := β) .fixed)

theorem prog_program {β : Type} [FlatBinder β] [ProgFlatBinder β] (cd : DataCodec) (m : Mode) :
    Prog (decProgram (β := β) cd m) 29 := fun s =>
  (runs_program (T := True) (P := False) cd m False.elim (fun s => ⟨fun _ => ProgFlatBinder.prog_var m s, False.elim⟩)
    (fun s => ⟨fun _ => ProgFlatBinder.prog_binder m s, False.elim⟩) s).1 trivial

theorem np_program_fixed {β : Type} [FlatBinder β] [SafeFlatBinder β] (cd : DataCodec) :
    NoPanic (decProgram (β := β) cd .fixed) := fun s =>
  (runs_program (T := False) (P := True) cd .fixed (fun _ => rfl) (fun s => ⟨False.elim, fun _ => SafeFlatBinder.np_var s⟩)
    (fun s => ⟨False.elim, fun _ => SafeFlatBinder.np_binder s⟩) s).2 trivial

theorem fromFlat_panic_fuel {β : Type} [FlatBinder β] (cd : DataCodec) (m : Mode) (bytes : Bytes) :
    ((fromFlat cd m bytes : Res (Program β)) = .panic → decProgram (β := β) cd m ⟨0, bitsOfBytes bytes⟩ = .panic) ∧
    ((fromFlat cd m bytes : Res (Program β)) = .fuel → decProgram (β := β) cd m ⟨0, bitsOfBytes bytes⟩ = .fuel) := by
  unfold fromFlat
  rcases decProgram (β := β) cd m ⟨0, bitsOfBytes bytes⟩ with ⟨p, s⟩ | _ | _ | _
  · exact ⟨nofun, nofun⟩
  · exact ⟨nofun, nofun⟩
  · exact ⟨fun _ => rfl, nofun⟩
  · exact ⟨nofun, fun _ => rfl⟩

theorem stops_namedDeBruijn (m : Mode) (s : S) : Stops m (decNamedDeBruijn m) 0 s :=
  (stops_utf8 m s).zero.bind fun _ s1 _ =>
    (stops_word m s1).zero.bind_pure _

theorem stops_name (m : Mode) (s : S) : Stops m (decName m) 0 s :=
  (stops_utf8 m s).zero.bind fun _ s1 _ =>
    (stops_int64 m s1).zero.bind_pure _

instance : ProgFlatBinder DeBruijn where
  prog_var m s := (stops_word m s).zero.1 trivial
  prog_binder m s := (Runs.pure (T := True) (P := False) (0 : DeBruijn) (s := s)).1 trivial

instance : ProgFlatBinder NamedDeBruijn where
  prog_var m s := (stops_namedDeBruijn m s).1 trivial
  prog_binder m s := (stops_namedDeBruijn m s).1 trivial

instance : ProgFlatBinder Name where
  prog_var m s := (stops_name m s).1 trivial
  prog_binder m s := (stops_name m s).1 trivial

instance : SafeFlatBinder DeBruijn where
  np_var := .of_stops (stops_word .fixed)
  np_binder := fun _ => nofun

instance : SafeFlatBinder NamedDeBruijn where
  np_var := .of_stops (stops_namedDeBruijn .fixed)
  np_binder := .of_stops (stops_namedDeBruijn .fixed)

instance : SafeFlatBinder Name where
  np_var := .of_stops (stops_name .fixed)
  np_binder := .of_stops (stops_name .fixed)

end AikenVerif.Flat
