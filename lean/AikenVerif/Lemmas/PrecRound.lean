import AikenVerif.Lemmas.PrecParse
/-!
C13, part 3 of 3: the induction.  `Good f e`: with parenthesis fuel `f`, the text
printed for `e` followed by any continuation that stops the tower is parsed back as `e`,
leaving exactly the continuation.
-/
namespace AikenVerif.Prec
open AikenVerif.Gen.Prec

def Good (f : Nat) (e : Expr) : Prop :=
  (∀ h, e.ht ≤ h → h ≤ towerLevels → ∀ rest, stops h rest →
      towerP (exprP f) h (print e ++ rest) = some (e, rest))
  ∧ (∀ rest, stops (towerLevels + 1) rest → exprP (f + 1) (print e ++ rest) = some (e, rest))

theorem exprP_succ (f : Nat) : exprP (f + 1) = pipeP (towerP (exprP f) towerLevels) := rfl

/-- for an expression that is not a pipeline the second half follows from the first -/
theorem good_of_tower (f : Nat) (e : Expr) (hht : e.ht ≤ towerLevels)
    (h1 : ∀ h, e.ht ≤ h → h ≤ towerLevels → ∀ rest, stops h rest →
      towerP (exprP f) h (print e ++ rest) = some (e, rest)) : Good f e := by
  refine ⟨h1, ?_⟩
  intro rest hs
  rw [exprP_succ]
  exact pipeP_of_next _ _ _ _
    (h1 towerLevels hht (Nat.le_refl _) rest (stops_mono (by omega) _ hs)) hs

theorem paren_parse (f : Nat) (x : Expr) (hx : Good f x) (h : Nat) (rest : List Tok)
    (hs : stops h rest) : towerP (exprP (f + 1)) h (paren (print x) ++ rest) = some (x, rest) := by
  have h0 : towerP (exprP (f + 1)) 0 (paren (print x) ++ rest) = some (x, rest) := by
    have := hx.2 (Tok.rparen :: rest) trivial
    simp only [paren, List.cons_append, List.append_assoc, List.nil_append, towerP, unaryP, atomP, this]
  exact towerP_lift _ _ _ _ (Nat.zero_le h) h0 hs

theorem rendAt_parse (f : Nat) (x : Expr) (hx : ∀ f', x.size ≤ f' → Good f' x) (hf : x.size ≤ f)
    (h : Nat) (hh : h ≤ towerLevels) (rest : List Tok) (hs : stops h rest) :
    towerP (exprP (f + 1)) h (rendAt h x ++ rest) = some (x, rest) := by
  unfold rendAt
  by_cases c : x.ht ≤ h
  · rw [if_pos c]
    exact (hx (f + 1) (by omega)).1 h c hh rest hs
  · rw [if_neg c]
    exact paren_parse f x (hx f hf) h rest hs

theorem level_chain_parse (next : Parser) (t : Nat) (e0 : Expr) (items : List (BinOp × Expr))
    (rest : List Tok)
    (h0 : ∀ rest', stops t rest' → next (rendAt t e0 ++ rest') = some (e0, rest'))
    (hi : ∀ it ∈ items, ∀ rest', stops t rest' → next (rendAt t it.2 ++ rest') = some (it.2, rest'))
    (htw : ∀ it ∈ items, it.1.tower = t) (hs : stops (t + 1) rest) :
    levelP next t (rendAt t e0 ++ flatItems t items ++ rest) =
      some ((if levelRight t then combineRight e0 items else combineLeft e0 items), rest) := by
  have hstop : stops t (flatItems t items ++ rest) := by
    cases items with
    | nil => simpa [flatItems] using stops_mono (Nat.le_succ t) _ hs
    | cons it more =>
      have := htw it (by simp)
      simp only [flatItems, List.flatMap_cons, List.cons_append, stops]
      omega
  have hn := h0 _ hstop
  have htail := tailP_flat (levelSep t) next Tok.op (rendAt t) (stops t) items rest
    (by intro it hit; simp [levelSep, htw it hit])
    (by intro it hit ts; simp only [stops]; have := htw it hit; omega)
    hi (stops_mono (Nat.le_succ t) _ hs) (levelSep_none_of_stops hs)
  unfold levelP
  rw [List.append_assoc, hn]
  simp only [flatItems] at htail ⊢
  simp only [htail]

/-- The pipeline counterparts of `chainL`, `rendAt` (first stage / later stages) and `flatItems`. -/
def chainP : Expr → Expr × List (Unit × Expr)
  | .pipe l r => ((chainP l).1, (chainP l).2 ++ [((), r)])
  | e => (e, [])

def rP0 (x : Expr) : List Tok := operatorSide pipeFirstThreshold x.binopPrecedence (print x)
def rP (x : Expr) : List Tok := operatorSide pipeRestThreshold x.binopPrecedence (print x)
def flatP (items : List (Unit × Expr)) : List Tok := items.flatMap (fun it => Tok.pipe :: rP it.2)

theorem chainP_fold : ∀ e, (chainP e).2.foldl (fun acc it => Expr.pipe acc it.2) (chainP e).1 = e
  | .atom _ => rfl
  | .un _ _ => rfl
  | .bin _ _ _ => rfl
  | .pipe l r => by
    simp only [chainP, List.foldl_append, chainP_fold l]
    rfl

theorem chainP_head : ∀ e, (chainP e).1.isPipe = false
  | .atom _ => rfl
  | .un _ _ => rfl
  | .bin _ _ _ => rfl
  | .pipe l r => by simp only [chainP]; exact chainP_head l

theorem chainP_size : ∀ e, (chainP e).1.size ≤ e.size ∧ ∀ it ∈ (chainP e).2, it.2.size < e.size
  | .atom _ => by simp [chainP]
  | .un _ _ => by simp [chainP]
  | .bin _ _ _ => by simp [chainP]
  | .pipe l r => by
    have ih := chainP_size l
    simp only [chainP]
    refine ⟨by simp only [Expr.size]; omega, ?_⟩
    intro it hit
    simp only [List.mem_append, List.mem_singleton] at hit
    rcases hit with hit | hit
    · have := ih.2 it hit; simp only [Expr.size]; omega
    · subst hit; simp only [Expr.size]; omega

theorem print_chainP : ∀ l r, print (.pipe l r) = rP0 (chainP (.pipe l r)).1 ++ flatP (chainP (.pipe l r)).2
  | .atom n, r => by simp [print, chainP, rP0, rP, flatP]
  | .un o y, r => by simp [print, chainP, rP0, rP, flatP]
  | .bin o a b, r => by simp [print, chainP, rP0, rP, flatP]
  | .pipe l' r', r => by
    have ih := print_chainP l' r'
    rw [print]
    simp only [ih]
    simp [chainP, rP, flatP, List.flatMap_append]

theorem ht_le_of_not_pipe (x : Expr) (h : x.isPipe = false) : x.ht ≤ towerLevels := by
  cases x with
  | bin op l r => have := (table_range op).2.2; simp only [Expr.ht]; omega
  | pipe l r => simp [Expr.isPipe] at h
  | atom n => simp [Expr.ht]
  | un o y => simp [Expr.ht]

theorem side_parse (f : Nat) (x : Expr) (hx : ∀ f', x.size ≤ f' → Good f' x) (hf : x.size ≤ f)
    (a : Nat) (hbare : ¬ a > x.binopPrecedence → x.isPipe = false) (rest : List Tok)
    (hs : stops towerLevels rest) :
    towerP (exprP (f + 1)) towerLevels (operatorSide a x.binopPrecedence (print x) ++ rest) = some (x, rest) := by
  unfold operatorSide
  by_cases c : a > x.binopPrecedence
  · rw [if_pos c]
    exact paren_parse f x (hx f hf) _ rest hs
  · rw [if_neg c]
    exact (hx (f + 1) (by omega)).1 towerLevels (ht_le_of_not_pipe x (hbare c)) (Nat.le_refl _) rest hs

theorem good_atom (f n : Nat) : Good f (.atom n) := by
  apply good_of_tower f _ (by simp [Expr.ht])
  intro h _ _ rest hs
  have h0 : towerP (exprP f) 0 (print (.atom n) ++ rest) = some (.atom n, rest) := by
    simp [print, towerP, unaryP, atomP]
  exact towerP_lift _ _ _ _ (Nat.zero_le h) h0 hs

theorem good_un (f : Nat) (o : UnOp) (y : Expr) (hy : ∀ f', y.size ≤ f' → Good f' y)
    (hf : (Expr.un o y).size ≤ f) : Good f (.un o y) := by
  apply good_of_tower f _ (by simp [Expr.ht])
  intro h _ _ rest hs
  have hs0 : stops 0 rest := stops_mono (Nat.zero_le _) _ hs
  obtain ⟨f', rfl⟩ : ∃ f', f = f' + 1 := ⟨f - 1, by simp only [Expr.size] at hf; omega⟩
  have hyf : y.size ≤ f' := by simp only [Expr.size] at hf; omega
  -- the operand after the prefix operator
  have hw : unaryP (atomP (exprP (f' + 1)))
      ((if y.isAtom then print y else paren (print y)) ++ rest) = some (y, rest) := by
    by_cases c : y.isAtom = true
    · rw [if_pos c]
      have hht : y.ht ≤ 0 := by cases y <;> simp [Expr.isAtom, Expr.ht] at c ⊢
      exact (hy (f' + 1) (by omega)).1 0 hht (Nat.zero_le _) rest hs0
    · rw [if_neg c]
      exact paren_parse f' _ (hy f' hyf) 0 rest hs0
  have h0 : towerP (exprP (f' + 1)) 0 (print (.un o y) ++ rest) = some (.un o y, rest) := by
    cases o with
    | not =>
      rw [print]
      simp only [unTok, List.cons_append, towerP, unaryP, hw]
    | negate =>
      rw [print]
      simp only [unTok, List.cons_append, towerP, unaryP, hw, if_true]
  exact towerP_lift _ _ _ _ (Nat.zero_le h) h0 hs

theorem good_bin (f : Nat) (op : BinOp) (l r : Expr)
    (ih : ∀ x : Expr, x.size < (Expr.bin op l r).size → ∀ f', x.size ≤ f' → Good f' x)
    (hf : (Expr.bin op l r).size ≤ f) : Good f (.bin op l r) := by
  have htl := (table_range op).2.2
  apply good_of_tower f _ (by simp only [Expr.ht]; omega)
  intro h hh hhl rest hs
  simp only [Expr.ht] at hh
  obtain ⟨f', rfl⟩ : ∃ f', f = f' + 1 := ⟨f - 1, by have := Expr.size_pos (.bin op l r); omega⟩
  -- every strictly smaller operand, rendered at the level below, parses back
  have hsub : ∀ x : Expr, x.size < (Expr.bin op l r).size → ∀ rest', stops op.tower rest' →
      towerP (exprP (f' + 1)) op.tower (rendAt op.tower x ++ rest') = some (x, rest') :=
    fun x hx rest' hs' => rendAt_parse f' x (ih x hx) (by omega) op.tower (by omega) rest' hs'
  have hpr : print (.bin op l r) = rendAt (op.tower + 1) (.bin op l r) := (rendAt_of_le (Nat.le_refl _)).symm
  have hlev : towerP (exprP (f' + 1)) (op.tower + 1) (print (.bin op l r) ++ rest) =
      some (.bin op l r, rest) := by
    have hs1 : stops (op.tower + 1) rest := stops_mono hh _ hs
    show levelP (towerP (exprP (f' + 1)) op.tower) op.tower _ = _
    cases hlr : levelRight op.tower with
    | false =>
      have hsz := chainL_size op.tower (.bin op l r)
      have hsz0 : (chainL op.tower (.bin op l r)).1.size < (Expr.bin op l r).size := by
        have := (chainL_size op.tower l).1
        simp only [chainL, if_true, Expr.size]; omega
      rw [hpr, rendAt_chainL op.tower htl hlr]
      have := level_chain_parse (towerP (exprP (f' + 1)) op.tower) op.tower
        (chainL op.tower (.bin op l r)).1 (chainL op.tower (.bin op l r)).2 rest
        (hsub _ hsz0) (fun it hit => hsub _ (hsz.2 it hit)) (chainL_tower op.tower _) hs1
      rw [this, hlr]
      simp only [Bool.false_eq_true, if_false, chainL_combine]
    | true =>
      have hsz := chainR_size op.tower (.bin op l r)
      have hsz0 : (chainR op.tower (.bin op l r)).1.size < (Expr.bin op l r).size := by
        simp only [chainR, if_true, Expr.size]; omega
      rw [hpr, rendAt_chainR op.tower htl hlr]
      have := level_chain_parse (towerP (exprP (f' + 1)) op.tower) op.tower
        (chainR op.tower (.bin op l r)).1 (chainR op.tower (.bin op l r)).2 rest
        (hsub _ hsz0) (fun it hit => hsub _ (hsz.2 it hit)) (chainR_tower op.tower _) hs1
      rw [this, hlr]
      simp only [if_true, chainR_combine]
  exact towerP_lift _ _ _ _ hh hlev hs

theorem good_pipe (f : Nat) (l r : Expr)
    (ih : ∀ x : Expr, x.size < (Expr.pipe l r).size → ∀ f', x.size ≤ f' → Good f' x)
    (hf : (Expr.pipe l r).size ≤ f) : Good f (.pipe l r) := by
  refine ⟨fun h hh hhl => by simp only [Expr.ht] at hh; omega, ?_⟩
  intro rest hs
  obtain ⟨f', rfl⟩ : ∃ f', f = f' + 1 := ⟨f - 1, by have := Expr.size_pos (.pipe l r); omega⟩
  have hsz := chainP_size (.pipe l r)
  have hsz0 : (chainP (.pipe l r)).1.size < (Expr.pipe l r).size := by
    have := (chainP_size l).1
    simp only [chainP, Expr.size]; omega
  have hsL : stops towerLevels rest := stops_mono (Nat.le_succ _) _ hs
  have hstop : stops towerLevels (flatP (chainP (.pipe l r)).2 ++ rest) := by
    cases (chainP (.pipe l r)).2 with
    | nil => simpa [flatP] using hsL
    | cons it more => simp [flatP, stops]
  have h0 := side_parse f' (chainP (.pipe l r)).1 (ih _ hsz0) (by omega) pipeFirstThreshold
    (fun _ => chainP_head _) _ hstop
  have htail := tailP_flat pipeSep (towerP (exprP (f' + 1)) towerLevels) (fun _ => Tok.pipe) rP
    (stops towerLevels) (chainP (.pipe l r)).2 rest
    (by intro it _; rfl)
    (by intro it _ ts; simp [stops])
    (by
      intro it hit rest' hs'
      refine side_parse f' it.2 (ih _ (hsz.2 it hit)) (by have := hsz.2 it hit; omega)
        pipeRestThreshold ?_ rest' hs'
      intro c
      cases hx : it.2 with
      | pipe a b =>
        rw [hx] at c
        exact absurd table_pipe_rest c
      | _ => rfl)
    hsL (pipeSep_none_of_stops hs)
  rw [exprP_succ, print_chainP]
  unfold pipeP
  unfold rP0
  rw [List.append_assoc, h0]
  simp only [flatP] at htail ⊢
  simp only [htail]
  rw [chainP_fold]

theorem all_good : ∀ n : Nat, ∀ e : Expr, e.size ≤ n → ∀ f, e.size ≤ f → Good f e
  | 0, e, hn, _, _ => by have := Expr.size_pos e; omega
  | n + 1, e, hn, f, hf => by
    have ih : ∀ x : Expr, x.size < e.size → ∀ f', x.size ≤ f' → Good f' x :=
      fun x hx f' hf' => all_good n x (by omega) f' hf'
    cases e with
    | atom k => exact good_atom f k
    | un o y => exact good_un f o y (ih y (by simp [Expr.size])) hf
    | bin op l r => exact good_bin f op l r ih hf
    | pipe l r => exact good_pipe f l r ih hf

theorem length_paren (ts : List Tok) : (paren ts).length = ts.length + 2 := by
  simp only [paren, List.length_cons, List.length_append, List.length_nil]

theorem length_le_operatorSide (a s : Nat) (ts : List Tok) : ts.length ≤ (operatorSide a s ts).length := by
  unfold operatorSide
  split
  · rw [length_paren]
    exact Nat.le_add_right _ 2
  · exact Nat.le_refl _

/-- Hence the fuel that `parse` passes, `ts.length + 1`, covers `e.size`. -/
theorem size_le_print_length : ∀ e : Expr, e.size ≤ (print e).length
  | .atom _ => Nat.le_refl 1
  | .un o y => by
    have := size_le_print_length y
    rw [print, Expr.size, List.length_cons]
    split
    · omega
    · rw [length_paren]
      omega
  | .bin op l r => by
    have hl := Nat.le_trans (size_le_print_length l)
      (length_le_operatorSide op.precedence (if op.mirrored then l.binopPrecedence - 1 else l.binopPrecedence) (print l))
    have hr := Nat.le_trans (size_le_print_length r)
      (length_le_operatorSide op.precedence (if op.mirrored then r.binopPrecedence else r.binopPrecedence - 1) (print r))
    simp only [print, Expr.size, List.length_append, List.length_cons, List.length_nil]
    omega
  | .pipe l r => by
    have hr := Nat.le_trans (size_le_print_length r) (length_le_operatorSide pipeRestThreshold r.binopPrecedence (print r))
    have hl := size_le_print_length l
    have hl' := Nat.le_trans hl (length_le_operatorSide pipeFirstThreshold l.binopPrecedence (print l))
    cases l <;> simp only [print, Expr.size, List.length_append, List.length_cons, List.length_nil] at * <;> omega

end AikenVerif.Prec
