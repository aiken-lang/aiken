import AikenVerif.Model.Schema
/-! Which outcomes the validator can have: it stops within `dsize d + 1` fuel, and once repaired
it never kills the process. -/
namespace AikenVerif.Blueprint

theorem dsize_mem_list {x : Data} {xs : List Data} (h : x ∈ xs) : dsize x < dsizeList xs := by
  induction xs with
  | nil => cases h
  | cons y ys ih =>
    simp only [dsizeList]
    rcases List.mem_cons.mp h with rfl | h
    · omega
    · have := ih h; omega

theorem dsize_mem_pairs {e : Data × Data} {es : List (Data × Data)} (h : e ∈ es) :
    dsize e.1 < dsizePairs es ∧ dsize e.2 < dsizePairs es := by
  induction es with
  | nil => cases h
  | cons y ys ih =>
    simp only [dsizePairs]
    rcases List.mem_cons.mp h with rfl | h
    · omega
    · have := ih h; omega

theorem dsize_lt_list {x : Data} {xs : List Data} (h : x ∈ xs) : dsize x < dsize (.list xs) :=
  Nat.lt_succ_of_lt (dsize_mem_list h)

theorem dsize_lt_constr {x : Data} {tag : Nat} {fs : List Data} (h : x ∈ fs) :
    dsize x < dsize (.constr tag fs) :=
  Nat.lt_succ_of_lt (dsize_mem_list h)

theorem dsize_lt_map {e : Data × Data} {es : List (Data × Data)} (h : e ∈ es) :
    dsize e.1 < dsize (.map es) ∧ dsize e.2 < dsize (.map es) :=
  ⟨Nat.lt_succ_of_lt (dsize_mem_pairs h).1, Nat.lt_succ_of_lt (dsize_mem_pairs h).2⟩

theorem allOk_ne {α : Type} {o : Outcome} {f : α → Outcome} {xs : List α}
    (h0 : o ≠ .ok) (h : ∀ x ∈ xs, f x ≠ o) : allOk f xs ≠ o := by
  induction xs with
  | nil => exact h0.symm
  | cons x xs ih =>
    simp only [allOk]
    split
    · exact ih fun y hy => h y (List.mem_cons_of_mem _ hy)
    · exact h x List.mem_cons_self

theorem zipOk_ne {σ α : Type} {o : Outcome} {f : σ → α → Outcome} {ss : List σ} {xs : List α}
    (h0 : o ≠ .ok) (h : ∀ s, ∀ x ∈ xs, f s x ≠ o) : zipOk f ss xs ≠ o := by
  induction ss generalizing xs with
  | nil => exact h0.symm
  | cons s ss ih =>
    cases xs with
    | nil => exact h0.symm
    | cons x xs =>
      simp only [zipOk]
      split
      · exact ih fun s y hy => h s y (List.mem_cons_of_mem _ hy)
      · exact h s x List.mem_cons_self

theorem ctorLoop_ne {σ : Type} {o m : Outcome} {f : σ → Data → Outcome} {tag : Nat}
    {fields : List Data} {cs : List (Nat × List σ)} (h0 : o ≠ .ok) (h1 : o ≠ .mismatch)
    (hm : m ≠ o) (h : ∀ s, ∀ x ∈ fields, f s x ≠ o) : ctorLoop m f tag fields cs ≠ o := by
  induction cs with
  | nil => exact h1.symm
  | cons c cs ih =>
    simp only [ctorLoop]
    split
    · split
      · exact hm
      · exact zipOk_ne h0 h
    · exact ih

/-- Generic in the outcome `o`: with `o = .panic` it gives "never panics", with `o = .outOfFuel` (where `hd`
bites: the fuel exceeds the size of the datum) "never out of fuel". -/
theorem vData_ne {fixed : Bool} {tbl : Table} {o : Outcome} (h0 : o ≠ .ok) (h1 : o ≠ .mismatch)
    (h2 : o ≠ .unresolved) (hl : lenOutcome fixed ≠ o) (fuel : Nat) (ds : DSchema) (d : Data)
    (hd : o = .outOfFuel → dsize d < fuel) : vData fixed tbl fuel ds d ≠ o := by
  -- a component of `d` fits the fuel left after one step
  have child : ∀ {x d : Data} {n : Nat}, dsize x < dsize d → (o = .outOfFuel → dsize d < n + 1) →
      o = .outOfFuel → dsize x < n :=
    fun hx hd ho => Nat.lt_of_lt_of_le hx (Nat.le_of_lt_succ (hd ho))
  fun_induction vData fixed tbl fuel ds d
  -- the arms that answer at once
  any_goals exact h0.symm
  any_goals exact h1.symm
  any_goals exact h2.symm
  -- no fuel
  · exact fun h => absurd (hd h.symm) (Nat.not_lt_zero _)
  -- list
  · rename_i ih
    exact allOk_ne h0 fun x hx => ih x (child (dsize_lt_list hx) hd)
  -- tuple
  · rename_i ih
    exact zipOk_ne h0 fun s x hx => ih s x (child (dsize_lt_list hx) hd)
  -- map
  · rename_i ihk ihv
    refine allOk_ne h0 fun e he => ?_
    unfold Outcome.andThen
    split
    · exact ihv e (child (dsize_lt_map he).2 hd)
    · exact ihk e (child (dsize_lt_map he).1 hd)
  -- constructors
  · rename_i ih
    exact ctorLoop_ne h0 h1 hl fun s x hx => ih s x (child (dsize_lt_constr hx) hd)

/-- `Parameter::validate` hands out `dsize d + 2` fuel -/
theorem validate_ne {fixed : Bool} {o : Outcome} (h0 : o ≠ .ok) (h1 : o ≠ .mismatch)
    (h2 : o ≠ .unresolved) (hl : lenOutcome fixed ≠ o) (tbl : Table) (p : Decl Schema) (d : Data) :
    validate fixed tbl p d ≠ o := by
  unfold validate
  split
  · exact h2.symm
  · rename_i s _
    cases s with
    | data ds => exact vData_ne h0 h1 h2 hl _ ds d fun _ => Nat.lt_succ_self _
    | _ => exact h1.symm

theorem validate_no_panic (tbl : Table) (p : Decl Schema) (d : Data) :
    validate true tbl p d ≠ .panic :=
  validate_ne (o := .panic) nofun nofun nofun (by decide) tbl p d

end AikenVerif.Blueprint
