import AikenVerif.Model.Cek
/-!
Well-typed constants: every list constant's items have the declared element type, every pair's
components the declared types.  The flat decoder and the text parser only build such constants
(they decode items BY the declared type); the builtins preserve it; the `unreachable!()` arms of
`runtime.rs` are exactly the ill-typed cases.
-/
namespace AikenVerif

mutual
  def Const.wt : Const → Bool
    | .list t xs => Const.wtList t xs
    | .pair a b x y => (x.ty == a) && (y.ty == b) && x.wt && y.wt
    | _ => true
  def Const.wtList (t : Ty) : List Const → Bool
    | [] => true
    | c :: cs => (c.ty == t) && c.wt && Const.wtList t cs
end

mutual
  def Term.wt : NTerm → Bool
    | .const c => c.wt
    | .lam _ b => Term.wt b
    | .app f a => Term.wt f && Term.wt a
    | .delay t => Term.wt t
    | .force t => Term.wt t
    | .constr _ fs => Term.wtList fs
    | .case s bs => Term.wt s && Term.wtList bs
    | .var _ => true
    | .error => true
    | .builtin _ => true
  def Term.wtList : List NTerm → Bool
    | [] => true
    | t :: ts => Term.wt t && Term.wtList ts
end

mutual
  def Value.wt : Value → Bool
    | .con c => c.wt
    | .delay body env => Term.wt body && Value.wtList env
    | .lam _ body env => Term.wt body && Value.wtList env
    | .builtin _ _ args => Value.wtList args
    | .constr _ fs => Value.wtList fs
  def Value.wtList : List Value → Bool
    | [] => true
    | v :: vs => v.wt && Value.wtList vs
end

def Frame.wt : Frame → Bool
  | .awaitArg fn => fn.wt
  | .awaitFunTerm env t => Value.wtList env && Term.wt t
  | .awaitFunValue v => v.wt
  | .force => true
  | .constr env _ todo done => Value.wtList env && Term.wtList todo && Value.wtList done
  | .cases env bs => Value.wtList env && Term.wtList bs

def State.wt : State → Bool
  | .compute ctx env t => ctx.all Frame.wt && Value.wtList env && Term.wt t
  | .ret ctx v => ctx.all Frame.wt && v.wt

theorem Value.wtList_iff (vs : List Value) : Value.wtList vs = true ↔ ∀ v ∈ vs, v.wt = true := by
  induction vs with
  | nil => simp [Value.wtList]
  | cons v vs ih => simp [Value.wtList, ih]

theorem Value.wtList_append (xs ys : List Value) :
    Value.wtList (xs ++ ys) = (Value.wtList xs && Value.wtList ys) := by
  induction xs with
  | nil => simp [Value.wtList]
  | cons x xs ih => simp [Value.wtList, ih, Bool.and_assoc]

theorem Term.wtList_iff (ts : List NTerm) : Term.wtList ts = true ↔ ∀ t ∈ ts, Term.wt t = true := by
  induction ts with
  | nil => simp [Term.wtList]
  | cons t ts ih => simp [Term.wtList, ih]

theorem Const.wtList_iff (t : Ty) (cs : List Const) :
    Const.wtList t cs = true ↔ ∀ c ∈ cs, c.ty = t ∧ c.wt = true := by
  induction cs with
  | nil => simp [Const.wtList]
  | cons c cs ih => simp [Const.wtList, ih, and_assoc]

theorem Const.wtList_drop (t : Ty) (cs : List Const) (n : Nat) (h : Const.wtList t cs = true) :
    Const.wtList t (cs.drop n) = true := by
  rw [Const.wtList_iff] at h ⊢
  intro c hc
  exact h c (List.mem_of_mem_drop hc)

theorem Const.wtList_map_data (ds : List Data) : Const.wtList .data (ds.map Const.data) = true := by
  induction ds with
  | nil => rfl
  | cons d ds ih => simp [Const.wtList, Const.ty, Const.wt, ih]

theorem Const.wtList_map_pairs (es : List (Data × Data)) :
    Const.wtList (.pair .data .data) (es.map (fun (k, v) => Const.pair .data .data (.data k) (.data v))) = true := by
  induction es with
  | nil => rfl
  | cons e es ih => obtain ⟨k, v⟩ := e; simp [Const.wtList, Const.ty, Const.wt, ih]

end AikenVerif
