import AikenVerif.Model.Term
/-! `Term` is nested through `List`: one induction principle for a statement about terms and a
statement about term lists, proved together.  One hypothesis is named `case`, after `Term.case`: in
`case app | case | cons => …` the middle word is that tag, not the keyword. -/
namespace AikenVerif

variable {β : Type}

theorem term_ind {P : Term β → Prop} {Q : List (Term β) → Prop}
    (var : ∀ n, P (.var n)) (lam : ∀ n b, P b → P (.lam n b)) (app : ∀ f a, P f → P a → P (.app f a))
    (delay : ∀ t, P t → P (.delay t)) (force : ∀ t, P t → P (.force t)) (error : P .error)
    (builtin : ∀ b, P (.builtin b)) (const : ∀ c, P (.const c)) (constr : ∀ tag fs, Q fs → P (.constr tag fs))
    (case : ∀ s bs, P s → Q bs → P (.case s bs)) (nil : Q []) (cons : ∀ t ts, P t → Q ts → Q (t :: ts)) :
    (∀ t, P t) ∧ (∀ ts, Q ts) :=
  ⟨fun t => Term.rec (motive_1 := P) (motive_2 := Q) var lam app delay force error builtin const constr case nil cons t,
   fun ts => Term.rec_1 (motive_1 := P) (motive_2 := Q) var lam app delay force error builtin const constr case nil cons ts⟩

end AikenVerif
