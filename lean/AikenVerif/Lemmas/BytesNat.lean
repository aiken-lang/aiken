import AikenVerif.Model.Builtin
/-!
Byte strings as numbers, for `integerToByteString` / `byteStringToInteger` (C04).
(The CBOR model has its own fixed-width big-endian pair `beBytes`/`beNat`: `Lemmas/CborWrap.lean`.)
-/
namespace AikenVerif.Bytes'

theorem toNatBE_append (xs : Bytes) (b : UInt8) : toNatBE (xs ++ [b]) = 256 * toNatBE xs + b.toNat := by
  simp [toNatBE, List.foldl_append]

theorem toNatBE_zeros (xs : Bytes) : ∀ k : Nat, toNatBE (List.replicate k (0 : UInt8) ++ xs) = toNatBE xs
  | 0 => rfl
  | k + 1 => toNatBE_zeros xs k

/-- the zero padding of `integerToByteString`, on little-endian digits `le` -/
def padded (be : Bool) (w : Nat) (le : Bytes) : Bytes :=
  if be then (le ++ List.replicate (w - le.length) 0).reverse else le ++ List.replicate (w - le.length) 0

theorem padded_nil (be : Bool) (w : Nat) : padded be w [] = List.replicate w 0 := by
  cases be <;> simp [padded]

theorem padded_zero (be : Bool) (le : Bytes) : padded be 0 le = if be then le.reverse else le := by
  cases be <;> simp [padded]

theorem toNatBE_padded (be : Bool) (w : Nat) (le : Bytes) :
    toNatBE (if be then padded be w le else (padded be w le).reverse) = toNatBE le.reverse := by
  cases be <;>
    simp only [padded, Bool.false_eq_true, if_false, if_true, List.reverse_append, List.reverse_replicate,
      toNatBE_zeros]

theorem ofNatLE_zero : ofNatLE 0 = [] := by
  rw [ofNatLE]; rfl

theorem ofNatLE_toNatBE_reverse : ∀ le : Bytes,
    ∃ k, ofNatLE (toNatBE le.reverse) ++ List.replicate k 0 = le
  | [] => ⟨0, by rw [List.reverse_nil, toNatBE, List.foldl_nil, ofNatLE_zero]; rfl⟩
  | b :: r => by
    obtain ⟨k, ih⟩ := ofNatLE_toNatBE_reverse r
    have hb := UInt8.toNat_lt b
    rw [List.reverse_cons, toNatBE_append, ofNatLE]
    by_cases h0 : 256 * toNatBE r.reverse + b.toNat = 0
    · obtain ⟨h256, hb0⟩ := Nat.add_eq_zero_iff.mp h0
      have hr : toNatBE r.reverse = 0 := (Nat.mul_eq_zero.mp h256).resolve_left (by decide)
      have hb0 : b = 0 := UInt8.toNat_inj.mp hb0
      rw [hr, ofNatLE_zero] at ih
      exact ⟨k + 1, by rw [dif_pos h0, ← ih, hb0]; rfl⟩
    · refine ⟨k, ?_⟩
      rw [dif_neg h0, Nat.mul_add_mod, Nat.mod_eq_of_lt hb, Nat.mul_add_div (by decide), Nat.div_eq_of_lt hb,
        Nat.add_zero, List.cons_append, ih, UInt8.ofNat_toNat]

end AikenVerif.Bytes'
