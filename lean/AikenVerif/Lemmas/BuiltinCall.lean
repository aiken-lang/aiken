import AikenVerif.Model.Builtin
/-!
From `callBuiltin` to `callBuiltinCore` and back (C04), and the guards and conversions the cores are written with.
-/
namespace AikenVerif
open Gen

theorem callBuiltin_of_core_con {sem : Sem} {b : Builtin} {args : List Value} {c : Const}
    (h : callBuiltinCore sem b args = .ok (.con c)) : callBuiltin sem b args = .ok (.con c) := by
  rw [callBuiltin, h]; rfl

theorem core_of_callBuiltin_con {sem : Sem} {b : Builtin} {args : List Value} {c : Const}
    (h : callBuiltin sem b args = .ok (.con c)) (hc : Value.con c ∉ args) :
    callBuiltinCore sem b args = .ok (.con c) := by
  rw [callBuiltin] at h
  cases hr : callBuiltinCore sem b args with
  | ok o =>
    rw [hr] at h
    cases o with
    | con c' => exact congrArg _ (congrArg BOut.con (Value.con.inj (Res.ok.inj h)))
    | arg i =>  -- the core hands back the `i`-th argument: `hc` says it is not `c`
      have : getArgB args i = .ok (.con c) := h
      rw [getArgB] at this
      split at this
      · rename_i v hv
        exact absurd (List.mem_of_getElem? (Res.ok.inj this ▸ hv)) hc
      · cases this
  | err | panic | unmodelled => rw [hr] at h; cases h

theorem callBuiltin_of_core_guard {sem : Sem} {b : Builtin} {args : List Value} {p : Prop} [Decidable p]
    {c : Const} (h : callBuiltinCore sem b args = if p then .err else .ok (.con c)) :
    callBuiltin sem b args = if p then .err else .ok (.con c) := by
  rw [callBuiltin, h]; split <;> rfl

theorem ite_err_eq_ok {α} {c : Prop} [Decidable c] {r : Res α} {v : α} :
    (if c then .err else r) = .ok v ↔ ¬ c ∧ r = .ok v := by
  by_cases h : c <;> simp [h]

theorem ite_panic_eq_ok {α} {c : Prop} [Decidable c] {r : Res α} {v : α} :
    (if c then .panic else r) = .ok v ↔ ¬ c ∧ r = .ok v := by
  by_cases h : c <;> simp [h]

theorem dataItems_map (ds : List Data) : dataItems (ds.map Const.data) = .ok ds := by
  induction ds with
  | nil => rfl
  | cons d ds ih => simp [dataItems, ih, bind, Res.bind, pure]

theorem pairItems_map (es : List (Data × Data)) :
    pairItems (es.map fun (k, v) => Const.pair .data .data (.data k) (.data v)) = .ok es := by
  induction es with
  | nil => rfl
  | cons e es ih => obtain ⟨k, v⟩ := e; simp [pairItems, ih, bind, Res.bind, pure]

/-- the variant-E range check on a shift or rotation amount stays silent -/
theorem i64_guard {sem : Sem} {k : Int} (hk : sem = .E → fitsI64 k = true) : (sem == .E && !fitsI64 k) = false := by
  cases h : sem == .E
  · rfl
  · rw [hk (beq_iff_eq.mp h)]; rfl

end AikenVerif
