/-!
# M-MATCH — pattern matching: signatures, values, matrix patterns, the usefulness
algorithm of `crates/aiken-lang/src/tipo/exhaustive.rs`, and a decision-tree model.

* spec side: `pmatch` (does a pattern match a value), `firstMatch` (naive "try the
  clauses top to bottom"), `SPat`/`bind` (source patterns with variables), typing
  of patterns and values w.r.t. a signature;
* impl side (mirrors the Rust, function by function): `specRowCtor`/`specRowWild`/
  `specRowLit` (`PatternStack::specialize_row_by_*`), `collectCtors` (a `BTreeMap`
  keyed by constructor name), `isComplete`, `isUseful`, `isMissing`, `recoverCtor`,
  `collectMissing`, `checkLoop`/`checkExhaustive` (`Environment::check_exhaustiveness`);
  the Rust's `unreachable!` (literal aligned with constructor) and `row[0]` panics are
  totalised as "row dropped"; they cannot occur on well-typed matrices (`Matrix.hasTy`);
* decision trees: `build sel` for an arbitrary column-selection function and `evalTree`.

Constructor names are natural numbers (the harness numbers the constructor names of
a case by their rank in string order, so that the `BTreeMap<String, _>` order is the
order on numbers).  Core Lean only (this file is linked into the native driver).
-/
namespace AikenVerif.Match

/-! ## types, signatures, values, patterns -/

inductive Ty where
  | int
  | bytes
  | data (t : Nat)
  deriving DecidableEq, Repr, Inhabited

/-- `Literal` of exhaustive.rs (`Int(String)` holds the canonical decimal spelling; see notes) -/
inductive Lit where
  | int (i : Int)
  | bytes (b : List Nat)
  deriving DecidableEq, Repr, Inhabited

/-- what a `Pattern::Constructor` carries as `alts`: (constructor name, arity) in declaration order -/
abbrev Alts := List (Nat × Nat)

/-- a data-type declaration: constructors (name, field types) in declaration order.
Generic types are represented per instance (`Option<Int>` and `Option<Bool>` are two
declarations); tuples/pairs are single-constructor declarations, lists are `:: | []`. -/
abbrev Decl := List (Nat × List Ty)
abbrev Sig := List Decl

def declAlts (d : Decl) : Alts := d.map (fun c => (c.1, c.2.length))

def lookupCtor (c : Nat) : Decl → Option (List Ty)
  | [] => none
  | (c', tys) :: rest => if c' = c then some tys else lookupCtor c rest

/-- the matrix pattern language of exhaustive.rs -/
inductive Pat where
  | wild
  | lit (l : Lit)
  | ctor (name : Nat) (alts : Alts) (args : List Pat)
  deriving Repr, Inhabited

inductive Val where
  | lit (l : Lit)
  | ctor (name : Nat) (args : List Val)
  deriving Repr, Inhabited

abbrev Row := List Pat
abbrev Matrix := List Row

/-! ## spec: matching -/

mutual
/-- does pattern `p` match value `v` -/
def pmatch : Pat → Val → Bool
  | .wild, _ => true
  | .lit l, .lit l' => decide (l = l')
  | .lit _, .ctor _ _ => false
  | .ctor _ _ _, .lit _ => false
  | .ctor c _ ps, .ctor c' vs => decide (c = c') && pmatchL ps vs
/-- a row of patterns matches a vector of values (same length, pointwise) -/
def pmatchL : List Pat → List Val → Bool
  | [], [] => true
  | p :: ps, v :: vs => pmatch p v && pmatchL ps vs
  | [], _ :: _ => false
  | _ :: _, [] => false
end

/-- index of the first clause whose pattern matches (source order) -/
def firstMatchFrom (i : Nat) : List Pat → Val → Option Nat
  | [], _ => none
  | p :: ps, x => if pmatch p x then some i else firstMatchFrom (i + 1) ps x

def firstMatch (cs : List Pat) (x : Val) : Option Nat := firstMatchFrom 0 cs x

/-! ## spec: typing -/

mutual
def Pat.hasTy (sg : Sig) : Pat → Ty → Bool
  | .wild, _ => true
  | .lit (.int _), .int => true
  | .lit (.bytes _), .bytes => true
  | .lit _, _ => false
  | .ctor c alts ps, .data t =>
    match sg[t]? with
    | some d =>
      decide (alts = declAlts d) &&
      (match lookupCtor c d with
       | some tys => Pat.hasTyL sg ps tys
       | none => false)
    | none => false
  | .ctor _ _ _, _ => false
def Pat.hasTyL (sg : Sig) : List Pat → List Ty → Bool
  | [], [] => true
  | p :: ps, t :: ts => Pat.hasTy sg p t && Pat.hasTyL sg ps ts
  | [], _ :: _ => false
  | _ :: _, [] => false
end

mutual
def Val.hasTy (sg : Sig) : Val → Ty → Bool
  | .lit (.int _), .int => true
  | .lit (.bytes _), .bytes => true
  | .lit _, _ => false
  | .ctor c vs, .data t =>
    match sg[t]? with
    | some d =>
      (match lookupCtor c d with
       | some tys => Val.hasTyL sg vs tys
       | none => false)
    | none => false
  | .ctor _ _, _ => false
def Val.hasTyL (sg : Sig) : List Val → List Ty → Bool
  | [], [] => true
  | v :: vs, t :: ts => Val.hasTy sg v t && Val.hasTyL sg vs ts
  | [], _ :: _ => false
  | _ :: _, [] => false
end

/-- every row of the matrix is a vector of patterns of the column types `ts` -/
def Matrix.hasTy (sg : Sig) (M : Matrix) (ts : List Ty) : Bool :=
  M.all (fun r => Pat.hasTyL sg r ts)

def Ty.ok (sg : Sig) : Ty → Bool
  | .data t => decide (t < sg.length)
  | _ => true

def nodupNat : List Nat → Bool
  | [] => true
  | x :: xs => !(xs.contains x) && nodupNat xs

/-- signature well-formed: constructor names of a type are distinct, field types exist -/
def Sig.ok (sg : Sig) : Bool :=
  sg.all (fun d => nodupNat (d.map (·.1)) && d.all (fun c => c.2.all (Ty.ok sg)))

/-- a witness table: one value per declared type -/
def witness (inh : List Val) : Ty → Val
  | .int => .lit (.int 0)
  | .bytes => .lit (.bytes [])
  | .data t => inh[t]?.getD (.lit (.int 0))

/-- "every type is inhabited", as a decidable check of a table of inhabitants -/
def inhOk (sg : Sig) (inh : List Val) : Bool :=
  (List.range sg.length).all (fun t => Val.hasTy sg (witness inh (.data t)) (.data t))

/-! ## impl: exhaustive.rs -/

mutual
/-- number of constructor and literal nodes -/
def Pat.nodes : Pat → Nat
  | .wild => 0
  | .lit _ => 1
  | .ctor _ _ args => 1 + Pat.nodesL args
def Pat.nodesL : List Pat → Nat
  | [] => 0
  | p :: ps => Pat.nodes p + Pat.nodesL ps
end

def Matrix.nodes : Matrix → Nat
  | [] => 0
  | r :: M => Pat.nodesL r + Matrix.nodes M

def wilds (n : Nat) : Row := List.replicate n Pat.wild

/-- `PatternStack::specialize_row_by_ctor` (`Literal` head: `unreachable!`, empty row:
index panic — both `none` here; neither occurs on a well-typed matrix) -/
def specRowCtor (c : Nat) (arity : Nat) : Row → Option Row
  | .ctor c' _ args :: rest => if c' = c ∧ args.length = arity then some (args ++ rest) else none
  | .wild :: rest => some (wilds arity ++ rest)
  | .lit _ :: _ => none
  | [] => none

/-- `PatternStack::specialize_row_by_wildcard` -/
def specRowWild : Row → Option Row
  | .wild :: rest => some rest
  | _ => none

/-- `PatternStack::specialize_row_by_literal` -/
def specRowLit (l : Lit) : Row → Option Row
  | .lit l' :: rest => if l' = l then some rest else none
  | .wild :: rest => some rest
  | .ctor _ _ _ :: _ => none
  | [] => none

def specCtor (c : Nat) (arity : Nat) (M : Matrix) : Matrix := M.filterMap (specRowCtor c arity)
def specWild (M : Matrix) : Matrix := M.filterMap specRowWild
def specLit (l : Lit) (M : Matrix) : Matrix := M.filterMap (specRowLit l)

/-- `BTreeMap::insert` on an association list kept sorted by key -/
def ctorsInsert (k : Nat) (a : Alts) : List (Nat × Alts) → List (Nat × Alts)
  | [] => [(k, a)]
  | (k', a') :: rest =>
    if k < k' then (k, a) :: (k', a') :: rest
    else if k = k' then (k, a) :: rest
    else (k', a') :: ctorsInsert k a rest

/-- `Matrix::collect_ctors`, one row -/
def ctorsStep (acc : List (Nat × Alts)) (r : Row) : List (Nat × Alts) :=
  match r with
  | .ctor c alts _ :: _ => ctorsInsert c alts acc
  | _ => acc

/-- `Matrix::collect_ctors` -/
def collectCtors (M : Matrix) : List (Nat × Alts) := M.foldl ctorsStep []

/-- `Matrix::is_complete`: `Complete::Yes(alts)` is `some alts` -/
def isComplete (M : Matrix) : Option Alts :=
  match collectCtors M with
  | [] => none
  | (_, alts) :: rest => if rest.length + 1 = alts.length then some alts else none

/-! ### lemmas for the termination of `isUseful` and `collectMissing` -/

theorem Pat.nodesL_append (a b : List Pat) : Pat.nodesL (a ++ b) = Pat.nodesL a + Pat.nodesL b := by
  induction a with
  | nil => simp [Pat.nodesL]
  | cons p ps ih => simp [Pat.nodesL, ih, Nat.add_assoc]

theorem Pat.nodesL_wilds (n : Nat) : Pat.nodesL (wilds n) = 0 := by
  induction n with
  | zero => simp [wilds, Pat.nodesL]
  | succ n ih => simpa [wilds, List.replicate_succ, Pat.nodesL, Pat.nodes] using ih

/-! The measures `Matrix.nodes` and `IMatrix.nodes` add up a weight over the rows, and every
recursive call below is on a `filterMap` or `filter` of the rows: the termination arguments are
instances of the next two facts. -/

theorem sum_filterMap_le {α β : Type} {w : α → Nat} {w' : β → Nat} {f : α → Option β}
    (h : ∀ a b, f a = some b → w' b ≤ w a) (l : List α) :
    ((l.filterMap f).map w').sum ≤ (l.map w).sum := by
  induction l with
  | nil => exact Nat.le_refl _
  | cons a l ih =>
    rw [List.map_cons, List.sum_cons]
    cases e : f a with
    | none =>
      rw [List.filterMap_cons_none e]
      exact Nat.le_trans ih (Nat.le_add_left _ _)
    | some b =>
      rw [List.filterMap_cons_some e, List.map_cons, List.sum_cons]
      exact Nat.add_le_add (h a b e) ih

theorem sum_filterMap_lt {α β : Type} {w : α → Nat} {w' : β → Nat} {f : α → Option β}
    (h : ∀ a b, f a = some b → w' b ≤ w a) {l : List α} {a : α} (ha : a ∈ l) (hpos : 0 < w a)
    (hlt : ∀ b, f a = some b → w' b < w a) :
    ((l.filterMap f).map w').sum < (l.map w).sum := by
  induction l with
  | nil => cases ha
  | cons x l ih =>
    rw [List.map_cons, List.sum_cons]
    rcases List.mem_cons.mp ha with rfl | ha
    · have hl := sum_filterMap_le h l
      cases e : f a with
      | none =>
        rw [List.filterMap_cons_none e]
        exact Nat.lt_of_le_of_lt hl (Nat.lt_add_of_pos_left hpos)
      | some b =>
        rw [List.filterMap_cons_some e, List.map_cons, List.sum_cons]
        exact Nat.add_lt_add_of_lt_of_le (hlt b e) hl
    · cases e : f x with
      | none =>
        rw [List.filterMap_cons_none e]
        exact Nat.lt_of_lt_of_le (ih ha) (Nat.le_add_left _ _)
      | some b =>
        rw [List.filterMap_cons_some e, List.map_cons, List.sum_cons]
        exact Nat.add_lt_add_of_le_of_lt (h x b e) (ih ha)

theorem Matrix.nodes_eq (M : Matrix) : Matrix.nodes M = (M.map Pat.nodesL).sum := by
  induction M with
  | nil => rfl
  | cons r M ih => exact congrArg (Pat.nodesL r + ·) ih

theorem Matrix.nodes_filterMap_le {f : Row → Option Row}
    (h : ∀ r r', f r = some r' → Pat.nodesL r' ≤ Pat.nodesL r) (M : Matrix) :
    Matrix.nodes (M.filterMap f) ≤ Matrix.nodes M := by
  rw [Matrix.nodes_eq, Matrix.nodes_eq]
  exact sum_filterMap_le h M

theorem specRowCtor_eq_some {c a : Nat} {r r' : Row} :
    specRowCtor c a r = some r' ↔
      (∃ rest, r = .wild :: rest ∧ r' = wilds a ++ rest) ∨
      ∃ alts args rest, r = .ctor c alts args :: rest ∧ args.length = a ∧ r' = args ++ rest := by
  match r with
  | .ctor c' alts args :: rest => simp [specRowCtor, and_assoc, eq_comm]
  | .wild :: rest => simp [specRowCtor, eq_comm]
  | [] | .lit _ :: _ => simp [specRowCtor]

theorem specRowWild_eq_some {r r' : Row} : specRowWild r = some r' ↔ r = .wild :: r' := by
  match r with
  | .wild :: rest => simp [specRowWild]
  | [] | .lit _ :: _ | .ctor _ _ _ :: _ => simp [specRowWild]

theorem specRowLit_eq_some {l : Lit} {r r' : Row} :
    specRowLit l r = some r' ↔ r = .wild :: r' ∨ r = .lit l :: r' := by
  match r with
  | .lit l' :: rest => simp [specRowLit, eq_comm]
  | .wild :: rest => simp [specRowLit]
  | [] | .ctor _ _ _ :: _ => simp [specRowLit]

theorem Pat.nodesL_ctor_row (c : Nat) (alts : Alts) (args rest : List Pat) :
    Pat.nodesL (args ++ rest) < Pat.nodesL (Pat.ctor c alts args :: rest) := by
  rw [Pat.nodesL_append, Pat.nodesL, Pat.nodes, Nat.add_assoc]
  exact Nat.lt_add_of_pos_left (k := 1) Nat.one_pos

theorem specRowCtor_nodes {c a : Nat} {r r' : Row} (h : specRowCtor c a r = some r') :
    Pat.nodesL r' ≤ Pat.nodesL r := by
  rcases specRowCtor_eq_some.mp h with ⟨rest, rfl, rfl⟩ | ⟨alts, args, rest, rfl, _, rfl⟩
  · rw [Pat.nodesL_append, Pat.nodesL_wilds]
    exact Nat.le_refl _
  · exact Nat.le_of_lt (Pat.nodesL_ctor_row c alts args rest)

theorem specCtor_nodes_le (c a : Nat) (M : Matrix) : Matrix.nodes (specCtor c a M) ≤ Matrix.nodes M :=
  Matrix.nodes_filterMap_le (fun _ _ => specRowCtor_nodes) M

theorem specWild_nodes_le (M : Matrix) : Matrix.nodes (specWild M) ≤ Matrix.nodes M := by
  refine Matrix.nodes_filterMap_le (fun r r' h => ?_) M
  rw [specRowWild_eq_some.mp h]
  exact Nat.le_add_left _ _

theorem specLit_nodes_le (l : Lit) (M : Matrix) : Matrix.nodes (specLit l M) ≤ Matrix.nodes M := by
  refine Matrix.nodes_filterMap_le (fun r r' h => ?_) M
  rcases specRowLit_eq_some.mp h with rfl | rfl
  · exact Nat.le_add_left _ _
  · exact Nat.le_add_left _ _

/-- does some row start with a constructor pattern -/
def hasCtorHead : Matrix → Bool
  | [] => false
  | (.ctor _ _ _ :: _) :: _ => true
  | _ :: M => hasCtorHead M

theorem ctorsInsert_ne_nil (k : Nat) (a : Alts) (l : List (Nat × Alts)) : ctorsInsert k a l ≠ [] := by
  cases l with
  | nil => simp [ctorsInsert]
  | cons x xs =>
    obtain ⟨k', a'⟩ := x
    simp only [ctorsInsert]
    split
    · simp
    · split <;> simp

theorem collectCtors_foldl_ne_nil (M : Matrix) (acc : List (Nat × Alts)) (h : acc ≠ []) :
    M.foldl ctorsStep acc ≠ [] := by
  induction M generalizing acc with
  | nil => simpa using h
  | cons r M ih =>
    simp only [List.foldl_cons]
    apply ih
    unfold ctorsStep
    split
    · exact ctorsInsert_ne_nil _ _ _
    · exact h

theorem foldl_ctorsStep_of_no_ctorHead {M : Matrix} (h : hasCtorHead M = false) (acc : List (Nat × Alts)) :
    M.foldl ctorsStep acc = acc := by
  induction M with
  | nil => rfl
  | cons r M ih =>
    match r, h with
    | .ctor _ _ _ :: _, h => cases h
    | [], h | .wild :: _, h | .lit _ :: _, h => exact ih h

theorem hasCtorHead_of_collectCtors {M : Matrix} (h : collectCtors M ≠ []) : hasCtorHead M = true := by
  cases hh : hasCtorHead M with
  | true => rfl
  | false => exact absurd (foldl_ctorsStep_of_no_ctorHead hh []) h

theorem hasCtorHead_of_isComplete {M : Matrix} {alts : Alts} (h : isComplete M = some alts) :
    hasCtorHead M = true := by
  apply hasCtorHead_of_collectCtors
  intro hc
  simp [isComplete, hc] at h

theorem mem_of_hasCtorHead {M : Matrix} (h : hasCtorHead M = true) :
    ∃ c alts args rest, (Pat.ctor c alts args :: rest) ∈ M := by
  induction M with
  | nil => cases h
  | cons r M ih =>
    match r, h with
    | .ctor c alts args :: rest, _ => exact ⟨c, alts, args, rest, List.mem_cons_self⟩
    | [], h | .wild :: _, h | .lit _ :: _, h =>
      obtain ⟨c, alts, args, rest, hm⟩ := ih h
      exact ⟨c, alts, args, rest, List.mem_cons_of_mem _ hm⟩

/-- the row that starts with a constructor is dropped, or loses its head node -/
theorem specCtor_nodes_lt (c a : Nat) {M : Matrix} (h : hasCtorHead M = true) :
    Matrix.nodes (specCtor c a M) < Matrix.nodes M := by
  obtain ⟨c', alts, args, rest, hm⟩ := mem_of_hasCtorHead h
  have hrow := Pat.nodesL_ctor_row c' alts args rest
  rw [Matrix.nodes_eq, Matrix.nodes_eq]
  refine sum_filterMap_lt (fun _ _ => specRowCtor_nodes) hm (Nat.lt_of_le_of_lt (Nat.zero_le _) hrow)
    fun r' e => ?_
  rcases specRowCtor_eq_some.mp e with ⟨_, e', _⟩ | ⟨_, _, _, e', _, rfl⟩
  · cases e'
  · cases e'
    exact hrow

/-- `Matrix::is_useful`.  Well-founded on (constructor/literal nodes of matrix + vector, width of
the vector) — the Rust recursion has no other guard. -/
def isUseful (M : Matrix) (v : Row) : Bool :=
  if M.isEmpty then true
  else
    match v with
    | [] => false
    | .ctor c _ args :: rest => isUseful (specCtor c args.length M) (args ++ rest)
    | .wild :: rest =>
      match h : isComplete M with
      | none => isUseful (specWild M) rest
      | some alts =>
        alts.any (fun alt => isUseful (specCtor alt.1 alt.2 M) (wilds alt.2 ++ rest))
    | .lit l :: rest => isUseful (specLit l M) rest
termination_by (Matrix.nodes M + Pat.nodesL v, v.length)
decreasing_by
  · apply Prod.Lex.left
    have := specCtor_nodes_le c args.length M
    simp only [Pat.nodesL, Pat.nodes, Pat.nodesL_append]; omega
  · have := specWild_nodes_le M
    simp only [Pat.nodesL, Pat.nodes, List.length_cons]
    rcases Nat.lt_or_ge (Matrix.nodes (specWild M)) (Matrix.nodes M) with h1 | h1
    · apply Prod.Lex.left; omega
    · have : Matrix.nodes (specWild M) = Matrix.nodes M := by omega
      rw [this, Nat.zero_add]; apply Prod.Lex.right; omega
  · apply Prod.Lex.left
    have := specCtor_nodes_lt alt.1 alt.2 (hasCtorHead_of_isComplete h)
    simp only [Pat.nodesL, Pat.nodes, Pat.nodesL_append, Pat.nodesL_wilds]; omega
  · apply Prod.Lex.left
    have := specLit_nodes_le l M
    simp only [Pat.nodesL, Pat.nodes]; omega

/-- `is_missing` -/
def isMissing (alts : Alts) (ctors : List (Nat × Alts)) (alt : Nat × Nat) : Option Pat :=
  if ctors.any (fun kv => kv.1 == alt.1) then none
  else some (.ctor alt.1 alts (wilds alt.2))

/-- `recover_ctor` (`split_at` is `take`/`drop`; `Vec::split_off` panics when the row is
shorter than `arity`, which `collectMissing_length` (Lemmas) excludes) -/
def recoverCtor (alts : Alts) (c : Nat) (arity : Nat) (r : Row) : Row :=
  .ctor c alts (r.take arity) :: r.drop arity

/-- `Matrix::collect_missing_patterns` -/
def collectMissing (M : Matrix) (n : Nat) : Matrix :=
  if M.isEmpty then [wilds n]
  else if n = 0 then []
  else
    match h : collectCtors M with
    | [] => (collectMissing (specWild M) (n - 1)).map (fun r => Pat.wild :: r)
    | (k, alts) :: rest =>
      if rest.length + 1 < alts.length then
        let rec_ := collectMissing (specWild M) (n - 1)
        let pre := alts.filterMap (isMissing alts ((k, alts) :: rest))
        rec_.flatMap (fun r => pre.map (fun p => p :: r))
      else
        alts.flatMap (fun alt =>
          (collectMissing (specCtor alt.1 alt.2 M) (alt.2 + n - 1)).map (recoverCtor alts alt.1 alt.2))
termination_by (Matrix.nodes M, n)
decreasing_by
  · have := specWild_nodes_le M
    rcases Nat.lt_or_ge (Matrix.nodes (specWild M)) (Matrix.nodes M) with h1 | h1
    · apply Prod.Lex.left; omega
    · have : Matrix.nodes (specWild M) = Matrix.nodes M := by omega
      rw [this]; apply Prod.Lex.right; omega
  · have := specWild_nodes_le M
    rcases Nat.lt_or_ge (Matrix.nodes (specWild M)) (Matrix.nodes M) with h1 | h1
    · apply Prod.Lex.left; omega
    · have : Matrix.nodes (specWild M) = Matrix.nodes M := by omega
      rw [this]; apply Prod.Lex.right; omega
  · apply Prod.Lex.left
    exact specCtor_nodes_lt alt.1 alt.2 (hasCtorHead_of_collectCtors (by rw [h]; simp))

inductive CheckResult where
  | ok
  | redundant (index : Nat)
  | notExhaustive (missing : List Pat)
  deriving Repr, Inhabited

/-- the loop of `Environment::check_exhaustiveness`; `i` is the index of the next clause -/
def checkLoop (M : Matrix) (i : Nat) : List Pat → CheckResult
  | [] =>
    match (collectMissing M 1).flatten with
    | [] => .ok
    | ms => .notExhaustive ms
  | p :: ps => if isUseful M [p] then checkLoop (M ++ [[p]]) (i + 1) ps else .redundant i

/-- `Environment::check_exhaustiveness` on the simplified patterns of the clauses -/
def checkExhaustive (cs : List Pat) : CheckResult := checkLoop [] 0 cs

/-! ## source patterns with variables, bindings -/

/-- source-level patterns (`ast::Pattern` after type checking, as far as matching goes) -/
inductive SPat where
  | var (x : Nat)
  | discard
  | as_ (x : Nat) (p : SPat)
  | lit (l : Lit)
  | ctor (name : Nat) (alts : Alts) (args : List SPat)
  deriving Repr, Inhabited

mutual
/-- `simplify` of exhaustive.rs on the modelled constructs -/
def simplify : SPat → Pat
  | .var _ => .wild
  | .discard => .wild
  | .as_ _ p => simplify p
  | .lit l => .lit l
  | .ctor c alts args => .ctor c alts (simplifyL args)
def simplifyL : List SPat → List Pat
  | [] => []
  | p :: ps => simplify p :: simplifyL ps
end

mutual
/-- variables bound by matching `p` against `v`, in left-to-right order; `none` = no match -/
def bind : SPat → Val → Option (List (Nat × Val))
  | .var x, v => some [(x, v)]
  | .discard, _ => some []
  | .as_ x p, v => (bind p v).map (fun bs => (x, v) :: bs)
  | .lit l, .lit l' => if l = l' then some [] else none
  | .lit _, .ctor _ _ => none
  | .ctor _ _ _, .lit _ => none
  | .ctor c _ ps, .ctor c' vs => if c = c' then bindL ps vs else none
def bindL : List SPat → List Val → Option (List (Nat × Val))
  | [], [] => some []
  | p :: ps, v :: vs =>
    match bind p v with
    | none => none
    | some b => (bindL ps vs).map (fun bs => b ++ bs)
  | [], _ :: _ => none
  | _ :: _, [] => none
end

/-- first clause (index, bindings) whose pattern matches -/
def firstBindFrom (i : Nat) : List SPat → Val → Option (Nat × List (Nat × Val))
  | [], _ => none
  | p :: ps, x =>
    match bind p x with
    | some bs => some (i, bs)
    | none => firstBindFrom (i + 1) ps x

def firstBind (cs : List SPat) (x : Val) : Option (Nat × List (Nat × Val)) := firstBindFrom 0 cs x

/-! ### occurrence paths (the `Assigned { path, .. }` of decision_tree.rs) -/

mutual
/-- the variables of a source pattern with the path (argument indexes from the scrutinee) of the
sub-value each one names, in binding order -/
def varPaths : SPat → List Nat → List (Nat × List Nat)
  | .var x, π => [(x, π)]
  | .discard, _ => []
  | .as_ x p, π => (x, π) :: varPaths p π
  | .lit _, _ => []
  | .ctor _ _ args, π => varPathsL args π 0
def varPathsL : List SPat → List Nat → Nat → List (Nat × List Nat)
  | [], _, _ => []
  | p :: ps, π, k => varPaths p (π ++ [k]) ++ varPathsL ps π (k + 1)
end

/-- the sub-value at a path -/
def subAt : List Nat → Val → Option Val
  | [], v => some v
  | k :: π, .ctor _ vs =>
    match vs[k]? with
    | some w => subAt π w
    | none => none
  | _ :: _, .lit _ => none

/-! ### calling a hoisted clause (`DecisionTree::HoistThen` / `HoistedLeaf`)

`TreeGen::do_build_tree` turns the body of clause N into a function whose parameters are the
`assigns` of the first leaf that reaches the clause (`params`); every leaf then calls it with the
sub-values named by its own `row.assigns` (`leaf`).  `Assign` = (variable, occurrence path). -/

abbrev Assign := Nat × List Nat

/-- the repaired leaf (proposed_fixes/C07-hoisted-clause-arg-order.diff): arguments in the order
of the parameters, looked up by variable name -/
def reorderArgs (params leaf : List Assign) : List Assign :=
  params.map (fun p => (leaf.find? (fun a => a.1 == p.1)).getD p)

/-- environment seen by the clause body: parameter names zipped with the argument values -/
def callEnvFixed (params leaf : List Assign) (root : Val) : List (Nat × Option Val) :=
  (params.map (·.1)).zip ((reorderArgs params leaf).map (fun a => subAt a.2 root))

/-- the leaf before the fix: `row.assigns` passed positionally -/
def callEnvUnfixed (params leaf : List Assign) (root : Val) : List (Nat × Option Val) :=
  (params.map (·.1)).zip (leaf.map (fun a => subAt a.2 root))

/-! ## decision trees with an arbitrary column-selection function -/

/-- what a test node inspects -/
inductive Head where
  | ctor (c : Nat) (arity : Nat)
  | lit (l : Lit)
  deriving DecidableEq, Repr, Inhabited

/-- `test col h yes no`: if the value in column `col` of the value stack has head `h`,
replace it by its fields (pushed in front) and continue with `yes`, otherwise continue
with `no` on the unchanged stack -/
inductive Tree where
  | fail
  | leaf (i : Nat)
  | test (col : Nat) (h : Head) (yes no : Tree)
  deriving Repr, Inhabited

def headOf : Pat → Option Head
  | .wild => none
  | .lit l => some (.lit l)
  | .ctor c _ args => some (.ctor c args.length)

/-- fields of `v` if it has head `h` -/
def headFields : Head → Val → Option (List Val)
  | .ctor c a, .ctor c' vs => if c = c' ∧ vs.length = a then some vs else none
  | .lit l, .lit l' => if l = l' then some [] else none
  | _, _ => none

def evalTree : Tree → List Val → Option Nat
  | .fail, _ => none
  | .leaf i, _ => some i
  | .test j h yes no, vs =>
    match vs[j]? with
    | none => none
    | some v =>
      match headFields h v with
      | some ws => evalTree yes (ws ++ vs.eraseIdx j)
      | none => evalTree no vs

/-- rows tagged with the index of their clause -/
abbrev IRow := Nat × Row
abbrev IMatrix := List IRow

def IMatrix.nodes : IMatrix → Nat
  | [] => 0
  | r :: M => Pat.nodesL r.2 + IMatrix.nodes M

def allWild : Row → Bool
  | [] => true
  | .wild :: r => allWild r
  | _ :: _ => false

/-- head of the first row (in order) whose column `j` is not a wildcard -/
def colHead (j : Nat) : IMatrix → Option Head
  | [] => none
  | r :: M =>
    match r.2[j]? with
    | some p => (match headOf p with | some h => some h | none => colHead j M)
    | none => colHead j M

/-- arity of the fields a head exposes -/
def Head.arity : Head → Nat
  | .ctor _ a => a
  | .lit _ => 0

/-- row specialised for "column `j` has head `h`": fields in front, column `j` removed -/
def treeSpecRow (j : Nat) (h : Head) (r : IRow) : Option IRow :=
  match r.2[j]? with
  | none => none
  | some .wild => some (r.1, wilds h.arity ++ r.2.eraseIdx j)
  | some (.lit l) => if h = .lit l then some (r.1, r.2.eraseIdx j) else none
  | some (.ctor c _ args) => if h = .ctor c args.length then some (r.1, args ++ r.2.eraseIdx j) else none

/-- row kept when column `j` does *not* have head `h` -/
def treeKeepRow (j : Nat) (h : Head) (r : IRow) : Bool :=
  match r.2[j]? with
  | none => true
  | some p => decide (headOf p ≠ some h)

/-- first column of `r` that is not a wildcard -/
def firstNonWild : Row → Nat
  | [] => 0
  | .wild :: r => firstNonWild r + 1
  | _ :: _ => 0

/-! ### lemmas for the termination of `build` -/

theorem Pat.nodesL_eraseIdx_add (r : Row) (j : Nat) (p : Pat) (h : r[j]? = some p) :
    Pat.nodesL (r.eraseIdx j) + Pat.nodes p = Pat.nodesL r := by
  induction r generalizing j with
  | nil => simp at h
  | cons q qs ih =>
    cases j with
    | zero => simp at h; subst h; simp [Pat.nodesL]; omega
    | succ j =>
      simp at h
      have := ih j h
      simp [Pat.nodesL]; omega

theorem IMatrix.nodes_eq (M : IMatrix) : IMatrix.nodes M = (M.map (fun r => Pat.nodesL r.2)).sum := by
  induction M with
  | nil => rfl
  | cons r M ih => exact congrArg (Pat.nodesL r.2 + ·) ih

/-- the specialised row has lost the head node of the pattern in column `j`, if that has one -/
theorem treeSpecRow_nodes {j : Nat} {h : Head} {r r' : IRow} (e : treeSpecRow j h r = some r') :
    ∃ p, r.2[j]? = some p ∧ Pat.nodesL r'.2 + min (Pat.nodes p) 1 = Pat.nodesL r.2 := by
  unfold treeSpecRow at e
  cases hj : r.2[j]? with
  | none => rw [hj] at e; cases e
  | some p =>
    refine ⟨p, rfl, ?_⟩
    rw [hj] at e
    rw [← Pat.nodesL_eraseIdx_add r.2 j p hj]
    cases p with
    | wild =>
      cases e
      rw [Pat.nodesL_append, Pat.nodesL_wilds]
      exact Nat.zero_add _
    | lit l =>
      dsimp only at e
      split at e
      · cases e; rfl
      · cases e
    | ctor c alts args =>
      dsimp only at e
      split at e
      · cases e
        rw [Pat.nodesL_append, Pat.nodes, Nat.min_eq_right (Nat.le_add_right 1 _)]
        omega
      · cases e

theorem treeSpecRow_nodes_le {j : Nat} {h : Head} (r r' : IRow) (e : treeSpecRow j h r = some r') :
    Pat.nodesL r'.2 ≤ Pat.nodesL r.2 := by
  obtain ⟨p, _, hn⟩ := treeSpecRow_nodes e
  exact hn ▸ Nat.le_add_right _ _

theorem headOf_nodes {p : Pat} {h : Head} (e : headOf p = some h) : 0 < Pat.nodes p := by
  cases p with
  | wild => cases e
  | lit l => exact Nat.one_pos
  | ctor c alts args => exact Nat.lt_of_lt_of_le Nat.one_pos (Nat.le_add_right 1 _)

theorem colHead_some {j : Nat} {h : Head} {M : IMatrix} (e : colHead j M = some h) :
    ∃ r ∈ M, ∃ p, r.2[j]? = some p ∧ headOf p = some h := by
  induction M with
  | nil => cases e
  | cons r M ih =>
    have tail : colHead j M = some h → ∃ r' ∈ r :: M, ∃ p, r'.2[j]? = some p ∧ headOf p = some h :=
      fun e => (ih e).imp fun _ h' => ⟨List.mem_cons_of_mem _ h'.1, h'.2⟩
    unfold colHead at e
    split at e
    · rename_i p hj
      split at e
      · rename_i h' hp
        cases e
        exact ⟨r, List.mem_cons_self, p, hj, hp⟩
      · exact tail e
    · exact tail e

/-- a row whose column `j` has head `h` contributes a node that the "yes" branch takes off -/
theorem treeSpec_nodes_lt {j : Nat} {h : Head} {M : IMatrix} (e : colHead j M = some h) :
    IMatrix.nodes (M.filterMap (treeSpecRow j h)) < IMatrix.nodes M := by
  obtain ⟨r, hr, p, hj, hp⟩ := colHead_some e
  have hpos := headOf_nodes hp
  have hsum := Pat.nodesL_eraseIdx_add r.2 j p hj
  rw [IMatrix.nodes_eq, IMatrix.nodes_eq]
  refine sum_filterMap_lt treeSpecRow_nodes_le hr (by omega) fun r' e' => ?_
  obtain ⟨p', hj', hn⟩ := treeSpecRow_nodes e'
  rw [hj] at hj'
  cases hj'
  omega

/-- … and the "no" branch drops that row -/
theorem treeKeep_nodes_lt {j : Nat} {h : Head} {M : IMatrix} (e : colHead j M = some h) :
    IMatrix.nodes (M.filter (treeKeepRow j h)) < IMatrix.nodes M := by
  obtain ⟨r, hr, p, hj, hp⟩ := colHead_some e
  have hpos := headOf_nodes hp
  have hsum := Pat.nodesL_eraseIdx_add r.2 j p hj
  have hdrop : treeKeepRow j h r = false := by simp [treeKeepRow, hj, hp]
  rw [IMatrix.nodes_eq, IMatrix.nodes_eq, ← List.filterMap_eq_filter]
  refine sum_filterMap_lt (fun a b hab => ?_) hr (by omega) fun b hb => ?_
  · rw [(Option.guard_eq_some_iff.mp hab).1]
    exact Nat.le_refl _
  · rw [Option.guard_eq_some_iff, hdrop] at hb
    cases hb.2

/-- Compile a clause matrix to a decision tree.  `sel` is an ARBITRARY column-selection
heuristic: its choice is used whenever some row has a non-wildcard in that column, otherwise
the first non-wildcard column of the first row is taken. -/
def build (sel : IMatrix → Nat) (M : IMatrix) : Tree :=
  match M with
  | [] => .fail
  | r :: M' =>
    if allWild r.2 then .leaf r.1
    else
      match h : colHead (sel (r :: M')) (r :: M') with
      | some hd =>
        .test (sel (r :: M')) hd
          (build sel ((r :: M').filterMap (treeSpecRow (sel (r :: M')) hd)))
          (build sel ((r :: M').filter (treeKeepRow (sel (r :: M')) hd)))
      | none =>
        match h2 : colHead (firstNonWild r.2) (r :: M') with
        | some hd =>
          .test (firstNonWild r.2) hd
            (build sel ((r :: M').filterMap (treeSpecRow (firstNonWild r.2) hd)))
            (build sel ((r :: M').filter (treeKeepRow (firstNonWild r.2) hd)))
        | none => .fail
termination_by IMatrix.nodes M
decreasing_by
  · exact treeSpec_nodes_lt h
  · exact treeKeep_nodes_lt h
  · exact treeSpec_nodes_lt h2
  · exact treeKeep_nodes_lt h2

def indexRows (i : Nat) : List Pat → IMatrix
  | [] => []
  | p :: ps => (i, [p]) :: indexRows (i + 1) ps

/-- decision tree of a clause list -/
def buildClauses (sel : IMatrix → Nat) (cs : List Pat) : Tree := build sel (indexRows 0 cs)

end AikenVerif.Match
